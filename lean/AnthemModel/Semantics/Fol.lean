/-
  Classical (Tarski) and here-and-there satisfaction for the target language (DESIGN.md 3.3).

  Assignments are untyped maps `Var → Dom`; the *use sites* read an integer variable through
  `Dom.toInt` and a symbol variable through `Dom.toStr`, and every quantifier ranges over the
  values of the bound variable's sort. Hence a free variable `X$i` always denotes an integer and
  no global well-sortedness hypothesis is needed.
-/
import AnthemModel.Semantics.Domain
namespace Anthem

abbrev Asg := Var → Dom
abbrev PredI := String → List Dom → Prop
abbrev FcI := String → Srt → Dom

def Asg.set (ρ : Asg) (v : Var) (d : Dom) : Asg := fun w => if w = v then d else ρ w

@[simp] theorem Asg.set_same (ρ : Asg) (v : Var) (d : Dom) : (ρ.set v d) v = d := by
  simp [Asg.set]

theorem Asg.set_other (ρ : Asg) {v w : Var} (d : Dom) (h : w ≠ v) : (ρ.set v d) w = ρ w := by
  simp [Asg.set, h]

structure Interp where
  pred : PredI
  fc : FcI

/-- An HT interpretation: two predicate interpretations over shared function constants.
    `Sub` (here ⊆ there) is a separate hypothesis, used only where needed. -/
structure HTI where
  h : PredI
  t : PredI
  fc : FcI

def HTI.Sub (M : HTI) : Prop := ∀ p a, M.h p a → M.t p a

inductive World | here | there
  deriving DecidableEq, Repr

def HTI.at (M : HTI) : World → PredI
  | .here => M.h
  | .there => M.t

def IOp.eval : IOp → Int → Int → Int
  | .add, a, b => a + b
  | .sub, a, b => a - b
  | .mul, a, b => a * b

def ITerm.eval (fc : FcI) (ρ : Asg) : ITerm → Int
  | .num n => n
  | .fc c => (fc c .integer).toInt
  | .var x => (ρ ⟨x, .integer⟩).toInt
  | .neg t => - t.eval fc ρ
  | .bin op l r => op.eval (l.eval fc ρ) (r.eval fc ρ)

def STerm.eval (fc : FcI) (ρ : Asg) : STerm → String
  | .sym s => s
  | .fc c => (fc c .symbol).toStr
  | .var x => (ρ ⟨x, .symbol⟩).toStr

def GTerm.eval (fc : FcI) (ρ : Asg) : GTerm → Dom
  | .inf => .inf
  | .sup => .sup
  | .fc c => fc c .general
  | .var x => ρ ⟨x, .general⟩
  | .int t => .num (t.eval fc ρ)
  | .symb t => .sym (t.eval fc ρ)

/-- A chain `t0 ρ1 t1 ρ2 t2 …` is the conjunction of the consecutive pairs. -/
def cmpChain (fc : FcI) (ρ : Asg) : Dom → List Guard → Prop
  | _, [] => True
  | d, g :: gs => g.rel.holds d (g.term.eval fc ρ) ∧ cmpChain fc ρ (g.term.eval fc ρ) gs

def AtomicF.sat (P : PredI) (fc : FcI) (ρ : Asg) : AtomicF → Prop
  | .tru => True
  | .fls => False
  | .atom a => P a.pred (a.args.map (GTerm.eval fc ρ))
  | .cmp t gs => cmpChain fc ρ (t.eval fc ρ) gs

/-- sequential binding: of two binders of one variable in a block the later one counts -/
def bindAll : List Var → (Asg → Prop) → Asg → Prop
  | [], P, ρ => P ρ
  | v :: vs, P, ρ => ∀ d : Dom, d.inSort v.sort → bindAll vs P (ρ.set v d)

def bindEx : List Var → (Asg → Prop) → Asg → Prop
  | [], P, ρ => P ρ
  | v :: vs, P, ρ => ∃ d : Dom, d.inSort v.sort ∧ bindEx vs P (ρ.set v d)

def sat (I : Interp) : Formula → Asg → Prop
  | .atomic a, ρ => a.sat I.pred I.fc ρ
  | .not f, ρ => ¬ sat I f ρ
  | .bin .and l r, ρ => sat I l ρ ∧ sat I r ρ
  | .bin .or l r, ρ => sat I l ρ ∨ sat I r ρ
  | .bin .imp l r, ρ => sat I l ρ → sat I r ρ
  | .bin .rimp l r, ρ => sat I r ρ → sat I l ρ
  | .bin .iff l r, ρ => (sat I l ρ ↔ sat I r ρ)
  | .quant .all vs f, ρ => bindAll vs (sat I f) ρ
  | .quant .ex vs f, ρ => bindEx vs (sat I f) ρ

/-- Here-and-there satisfaction. Implication at world `w` is checked at `w` and at `there`
    (at `w = there` both conjuncts coincide). -/
def ht (M : HTI) : Formula → World → Asg → Prop
  | .atomic a, w, ρ => a.sat (M.at w) M.fc ρ
  | .not f, _, ρ => ¬ ht M f .there ρ
  | .bin .and l r, w, ρ => ht M l w ρ ∧ ht M r w ρ
  | .bin .or l r, w, ρ => ht M l w ρ ∨ ht M r w ρ
  | .bin .imp l r, w, ρ => (ht M l w ρ → ht M r w ρ) ∧ (ht M l .there ρ → ht M r .there ρ)
  | .bin .rimp l r, w, ρ => (ht M r w ρ → ht M l w ρ) ∧ (ht M r .there ρ → ht M l .there ρ)
  | .bin .iff l r, w, ρ =>
      ((ht M l w ρ → ht M r w ρ) ∧ (ht M l .there ρ → ht M r .there ρ)) ∧
      ((ht M r w ρ → ht M l w ρ) ∧ (ht M r .there ρ → ht M l .there ρ))
  | .quant .all vs f, w, ρ => bindAll vs (ht M f w) ρ
  | .quant .ex vs f, w, ρ => bindEx vs (ht M f w) ρ

def HTEquiv (F G : Formula) : Prop := ∀ (M : HTI), M.Sub → ∀ w ρ, ht M F w ρ ↔ ht M G w ρ
def ClassEquiv (F G : Formula) : Prop := ∀ (I : Interp) ρ, sat I F ρ ↔ sat I G ρ

theorem bindAll_congr {vs : List Var} {P Q : Asg → Prop} (h : ∀ ρ, P ρ ↔ Q ρ) :
    ∀ ρ, bindAll vs P ρ ↔ bindAll vs Q ρ := by
  induction vs with
  | nil => exact h
  | cons v vs ih => exact fun ρ => forall_congr' fun d => imp_congr_right fun _ => ih _

theorem bindEx_congr {vs : List Var} {P Q : Asg → Prop} (h : ∀ ρ, P ρ ↔ Q ρ) :
    ∀ ρ, bindEx vs P ρ ↔ bindEx vs Q ρ := by
  induction vs with
  | nil => exact h
  | cons v vs ih => exact fun ρ => exists_congr fun d => and_congr_right fun _ => ih _

theorem bindAll_mono {vs : List Var} {P Q : Asg → Prop} (h : ∀ ρ, P ρ → Q ρ) :
    ∀ ρ, bindAll vs P ρ → bindAll vs Q ρ := by
  induction vs with
  | nil => exact h
  | cons v vs ih => exact fun ρ H d hd => ih _ (H d hd)

theorem bindEx_mono {vs : List Var} {P Q : Asg → Prop} (h : ∀ ρ, P ρ → Q ρ) :
    ∀ ρ, bindEx vs P ρ → bindEx vs Q ρ := by
  induction vs with
  | nil => exact h
  | cons v vs ih => exact fun ρ ⟨d, hd, H⟩ => ⟨d, hd, ih _ H⟩

/-- Persistence (the only use of `H ⊆ T`). -/
theorem ht_persist (M : HTI) (hs : M.Sub) : ∀ (F : Formula) (ρ : Asg), ht M F .here ρ → ht M F .there ρ := by
  intro F
  induction F with
  | atomic a =>
    intro ρ h
    cases a with
    | atom a => exact hs _ _ h
    | _ => exact h
  | not f _ => exact fun ρ h => h
  | bin c l r ihl ihr =>
    intro ρ
    cases c
    · exact fun ⟨a, b⟩ => ⟨ihl _ a, ihr _ b⟩
    · exact fun h => h.elim (fun a => Or.inl (ihl _ a)) (fun b => Or.inr (ihr _ b))
    · exact fun ⟨_, b⟩ => ⟨b, b⟩
    · exact fun ⟨_, b⟩ => ⟨b, b⟩
    · exact fun ⟨⟨_, b⟩, ⟨_, d⟩⟩ => ⟨⟨b, b⟩, ⟨d, d⟩⟩
  | quant q vs f ih =>
    intro ρ
    cases q
    · exact bindAll_mono ih ρ
    · exact bindEx_mono ih ρ

theorem ht_there_eq_sat (M : HTI) : ∀ (F : Formula) (ρ : Asg),
    ht M F .there ρ ↔ sat ⟨M.t, M.fc⟩ F ρ := by
  intro F
  induction F with
  | atomic a => exact fun ρ => Iff.rfl
  | not f ih => exact fun ρ => not_congr (ih ρ)
  | bin c l r ihl ihr =>
    intro ρ
    cases c <;> simp only [ht, sat, ihl, ihr, and_self]
    exact iff_iff_implies_and_implies.symm
  | quant q vs f ih =>
    intro ρ
    cases q
    · exact bindAll_congr ih ρ
    · exact bindEx_congr ih ρ

end Anthem
