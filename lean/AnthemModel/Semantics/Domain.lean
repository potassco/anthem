/-
  The standard domain of DESIGN.md 3.2: #inf < integers < symbolic constants < #sup.
-/
import AnthemModel.Syntax.Fol
namespace Anthem

inductive Dom
  | inf
  | num (z : Int)
  | sym (s : String)
  | sup
  deriving DecidableEq, Repr, Inhabited

namespace Dom

/-- numerals by `≤` on `Int`, symbols lexicographically -/
def le : Dom → Dom → Prop
  | .inf, _ => True
  | .num _, .inf => False
  | .num a, .num b => a ≤ b
  | .num _, .sym _ => True
  | .num _, .sup => True
  | .sym _, .inf => False
  | .sym _, .num _ => False
  | .sym a, .sym b => a ≤ b
  | .sym _, .sup => True
  | .sup, .sup => True
  | .sup, _ => False

instance : DecidableRel le := fun a b => by
  cases a <;> cases b <;> simp only [le] <;> infer_instance

def lt (a b : Dom) : Prop := ¬ le b a

instance : DecidableRel lt := fun a b => by unfold lt; infer_instance

theorem le_refl (a : Dom) : le a a := by
  cases a <;> simp [le]

theorem le_total (a b : Dom) : le a b ∨ le b a := by
  cases a <;> cases b <;> simp [le]
  · exact Int.le_total _ _
  · exact String.le_total _ _

theorem le_trans {a b c : Dom} : le a b → le b c → le a c := by
  cases a <;> cases b <;> cases c <;> simp [le]
  · exact Int.le_trans
  · exact String.le_trans

theorem le_antisymm {a b : Dom} : le a b → le b a → a = b := by
  cases a <;> cases b <;> simp [le]
  · exact Int.le_antisymm
  · exact String.le_antisymm

theorem lt_irrefl (a : Dom) : ¬ lt a a := by simp [lt, le_refl]

theorem lt_iff_le_and_ne {a b : Dom} : lt a b ↔ le a b ∧ a ≠ b := by
  unfold lt
  constructor
  · intro h
    refine ⟨(le_total a b).resolve_right h, ?_⟩
    intro e; subst e; exact h (le_refl a)
  · intro ⟨h1, h2⟩ h3; exact h2 (le_antisymm h1 h3)

def toInt : Dom → Int
  | .num z => z
  | _ => 0

def toStr : Dom → String
  | .sym s => s
  | _ => ""

/-- Sort membership: every value is general; integers are the numerals; symbols the symbolic constants. -/
def inSort : Srt → Dom → Prop
  | .general, _ => True
  | .integer, .num _ => True
  | .integer, _ => False
  | .symbol, .sym _ => True
  | .symbol, _ => False

instance (s : Srt) (d : Dom) : Decidable (inSort s d) := by
  cases s <;> cases d <;> simp only [inSort] <;> infer_instance

theorem inSort_integer {d : Dom} : inSort .integer d ↔ ∃ z, d = .num z := by
  cases d <;> simp [inSort]

theorem inSort_symbol {d : Dom} : inSort .symbol d ↔ ∃ s, d = .sym s := by
  cases d <;> simp [inSort]

end Dom

def Rel.holds : Rel → Dom → Dom → Prop
  | .eq, a, b => a = b
  | .ne, a, b => a ≠ b
  | .gt, a, b => Dom.lt b a
  | .lt, a, b => Dom.lt a b
  | .ge, a, b => Dom.le b a
  | .le, a, b => Dom.le a b

instance (r : Rel) (a b : Dom) : Decidable (r.holds a b) := by
  cases r <;> simp only [Rel.holds] <;> infer_instance

end Anthem
