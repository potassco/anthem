/-
  C16 — any input text leads to a result or a reported error, never a crash.
  Every panic site of the modelled stages is an explicit predicate of the model
  (`substPanics`, `globalsPanic`, the `Outcome.panic` results of the external pipeline). Proved:
  substitution never panics on sort-compatible arguments (the only way the translators and
  simplifiers call it); tau* / mu panic on no program (`globalsPanic` is constantly `false`, fix 1d6d77a);
  the TPTP printer has no panicking numeral (fix ca17dcd); the whole external-equivalence pipeline (checks,
  tau*, placeholders, completion, simplification, outline, assembly) panics on no task
  (`external_never_panics`; an accepted task reaches `unreachable!()` in the assembly for no role, fix
  3401bdf); numerals and arities beyond the integer type are parse errors (fix 515e4a3); the three searches
  for a free name are never ended by the model's fuel.
  NOT expressible in the model: stack depth, allocation failure (known finding: an output predicate
  of absurd arity), the pest parser's own behaviour — explored with mutated inputs through every
  CLI command by the check; a call of the implementation that does not return is the outcome
  `(hang)` of the correspondence harness and a time-out of the CLI exploration.
-/
import AnthemModel.Proofs.SubstBasic
import AnthemModel.Model.External
import AnthemModel.Model.TptpFmt
import AnthemModel.Proofs.PanicFree
import AnthemModel.Model.AspParse
import AnthemModel.Model.FolParse
import AnthemModel.Proofs.RenameFresh
import AnthemModel.Proofs.PropRename
import AnthemModel.Proofs.TauStarRules
namespace Anthem.C16

theorem gterm_substPanics_false (t : GTerm) (v : Var) (s : GTerm) (hc : SortCompatible v s) :
    t.substPanics v s = false := by
  cases t with
  | int it =>
    simp only [GTerm.substPanics, Bool.and_eq_false_imp, decide_eq_true_eq]
    intro h; obtain ⟨si, rfl⟩ := hc.1 h; rfl
  | symb st =>
    simp only [GTerm.substPanics, Bool.and_eq_false_imp, decide_eq_true_eq]
    intro h; obtain ⟨ss, rfl⟩ := hc.2 h; rfl
  | inf | sup | fc _ | var _ => rfl

theorem atomic_substPanics_false (a : AtomicF) (v : Var) (s : GTerm) (hc : SortCompatible v s) :
    a.substPanics v s = false := by
  cases a with
  | tru | fls => rfl
  | atom a =>
    simp only [AtomicF.substPanics, List.any_eq_false]
    intro t _; simp [gterm_substPanics_false t v s hc]
  | cmp t gs =>
    simp only [AtomicF.substPanics, Bool.or_eq_false_iff, List.any_eq_false]
    exact ⟨gterm_substPanics_false t v s hc, fun g _ => by simp [gterm_substPanics_false g.term v s hc]⟩

/-- **Substitution never panics on sort-compatible arguments**, whatever renaming happens on
    the way (for every fuel, hence for `Formula.substPanics`). -/
theorem substPanicsFuel_false (v : Var) (s : GTerm) (hc : SortCompatible v s) :
    ∀ (n : Nat) (F : Formula), F.substPanicsFuel n v s = false := by
  intro n
  induction n with
  | zero =>
    intro F
    cases F <;> simp [Formula.substPanicsFuel, atomic_substPanics_false _ v s hc]
  | succ n ih =>
    intro F
    cases F with
    | atomic a => simp [Formula.substPanicsFuel, atomic_substPanics_false a v s hc]
    | not f => simp [Formula.substPanicsFuel, ih f]
    | bin c l r => simp [Formula.substPanicsFuel, ih l, ih r]
    | quant q vs f =>
      simp only [Formula.substPanicsFuel]
      split
      · rfl
      · exact ih _

theorem substitute_panic_free (F : Formula) (v : Var) (s : GTerm) (hc : SortCompatible v s) :
    F.substPanics v s = false := substPanicsFuel_false v s hc _ F

/-- A variable substituted by a variable of its own sort (what every renaming and the
    transitive-equality rewrite do) is always compatible. -/
theorem var_for_var_compatible (v w : Var) (h : v.sort = w.sort) : SortCompatible v w.toTerm := by
  obtain ⟨vn, vs⟩ := v
  obtain ⟨wn, ws⟩ := w
  simp only at h
  subst h
  cases vs <;> simp [SortCompatible, Var.toTerm]

/-- **Global index.** `choose_fresh_global_variables` computes `max_taken_var + i` with a checked addition
    (fix 1d6d77a; the plain addition overflowed on `p(V18446744073709551615).`, a panic in the dev profile)
    and falls back to the smallest unused indices. For EVERY program the chosen names are pairwise
    different, no variable of the program is among them, and there is one per head argument. -/
theorem fresh_globals_always_fresh (p : Asp.Program) :
    (chooseFreshGlobals p).Nodup ∧ (∀ g ∈ chooseFreshGlobals p, g ∉ p.vars) ∧
      (chooseFreshGlobals p).length = maxHeadArity p :=
  chooseFreshGlobals_spec p rfl

/-- tau* and mu panic on no program -/
theorem globals_never_panic (p : Asp.Program) : globalsPanic p = false := rfl

/-- the witness of the overflow: the globals of `p(V18446744073709551615, X) :- q(V1), r(V2).` are the smallest
    unused names -/
theorem globals_overflow_witness :
    chooseFreshGlobals [⟨.basic ⟨"p", [.var "V18446744073709551615", .var "X"]⟩,
      [.lit ⟨.pos, ⟨"q", [.var "V1"]⟩⟩, .lit ⟨.pos, ⟨"r", [.var "V2"]⟩⟩]⟩] = ["V3", "V4"] := by decide +kernel

/-- The TPTP printer panics on no formula (fix ca17dcd). -/
theorem tptp_panic_free (F : Formula) : F.tptpPanics = false := by
  induction F with
  | atomic a =>
    -- no term panics (`ITerm.tptpPanics` is constantly `false`)
    cases a with
    | tru | fls => rfl
    | atom a => exact List.any_eq_false.mpr fun t _ => by cases t <;> exact Bool.false_ne_true
    | cmp t gs =>
      refine Bool.or_eq_false_iff.mpr ⟨by cases t <;> rfl, List.any_eq_false.mpr fun g _ => ?_⟩
      cases g.term <;> exact Bool.false_ne_true
  | not f ih => exact ih
  | bin c l r ihl ihr => exact Bool.or_eq_false_iff.mpr ⟨ihl, ihr⟩
  | quant q vs f ih => exact ih

/-- the completion of a tau* theory always exists: the `expect` in `theory_translate` cannot fail -/
theorem completion_of_tau_star_exists (P : Asp.Program) (ins : List Pred) (hp : globalsPanic P = false) :
    ∃ Γ, completion (tauStar P) ins = some Γ := completion_tauStar_some P ins

/-- **The external-equivalence pipeline never panics**: no `expect`, `unwrap` or `unreachable!` of
    `ExternalEquivalenceTask::decompose`, of the outline construction or of the assembly is reachable, for
    any task (the index addition of tau* is checked, fix 1d6d77a). -/
theorem external_never_panics (t : ExternalTask) (fuel : Nat) (s : String) :
    externalProblems t fuel ≠ .panic s :=
  externalProblems_no_panic t fuel s

/-- a panic would imply `globalsPanic` on one of the two programs; that is `false`, so this says the same as
    `external_never_panics` -/
theorem external_panic_only_overflow (t : ExternalTask) (fuel : Nat) (s : String)
    (h : externalProblems t fuel = .panic s) :
    globalsPanic t.program = true ∨ ∃ PL, t.specification = .inl PL ∧ globalsPanic PL = true :=
  absurd h (externalProblems_no_panic t fuel s)

/-- **Numeral range.** A numeral or arity beyond the integer type passes the grammar; the tree builder's
    `ParseIntError` unwrap is not reached because (fix 515e4a3) the parser refuses a text
    the grammar accepts when one of its numbers does not fit (`parseProgramChecked` etc. model
    `impl Parser for PestParser`; the outcome on such texts is compared with the implementation on every
    run): a text whose tree has a numeral out of range is refused, and nothing else changes. -/
theorem out_of_range_refused (text : String) (p : Asp.Program) (h : Asp.parseProgram text = some p) :
    Asp.parseProgramChecked text = (if p.inRange then some p else none) := by
  unfold Asp.parseProgramChecked
  rw [h]

/-- every numeral of a program the parser returns fits `isize`: the later stages never see another one -/
theorem accepted_numerals_in_range (text : String) (p : Asp.Program) (h : Asp.parseProgramChecked text = some p) :
    p.inRange = true := by
  cases h0 : Asp.parseProgram text with
  | none => rw [Asp.parseProgramChecked, h0] at h; cases h
  | some p0 =>
    rw [out_of_range_refused text p0 h0] at h
    rcases ite_eq_cases h with ⟨hr, h⟩ | ⟨_, h⟩ <;> cases h
    exact hr

/-! ## the searches for a free name terminate

`while occupied.contains(&candidate(i)) { i += 1 }` occurs three times in the implementation (private
renaming `q_p, q_p1, ..`, propositional renaming `p_p, p_p1, ..`, fresh global variables `V<k>`). The
model runs each with fuel `|occupied| + 1`. The theorems say that the fuel is never what stops the
search: the index returned is free (so the loop of the implementation, which has no fuel, stops there
too), it is the FIRST free index from the start, and it is at most `start + |occupied|`. -/

theorem search_first_free {f : Nat → Nat → Nat} {occupied : Nat → Prop} [DecidablePred occupied]
    (h0 : ∀ i, f 0 i = i) (hs : ∀ n i, f (n + 1) i = if occupied i then f n (i + 1) else i) :
    ∀ (fuel i j : Nat), i ≤ j → j < f fuel i → occupied j := by
  intro fuel
  induction fuel with
  | zero => intro i j h1 h2; rw [h0] at h2; omega
  | succ n ih =>
    intro i j h1 h2
    rw [hs] at h2
    by_cases hm : occupied i
    · rw [if_pos hm] at h2
      by_cases hij : i = j
      · exact hij ▸ hm
      · exact ih (i + 1) j (by omega) h2
    · rw [if_neg hm] at h2; omega

theorem findExt_first_free (occ : List Pred) (p : Pred) :
    ∀ (fuel i j : Nat), i ≤ j → j < findExt occ p fuel i → renamedPred p (renExt j) ∈ occ :=
  search_first_free (fun _ => rfl) (fun _ _ => rfl)

theorem findExt_le (occ : List Pred) (p : Pred) : ∀ (fuel i : Nat), findExt occ p fuel i ≤ i + fuel := by
  intro fuel
  induction fuel with
  | zero => intro i; simp [findExt]
  | succ n ih =>
    intro i
    simp only [findExt]
    split
    · have := ih (i + 1); omega
    · omega

/-- private renaming: the search stops at a free name ... -/
theorem private_rename_search_terminates (occ : List Pred) (p : Pred) :
    renamedPred p (renExt (findExt occ p (occ.length + 1) 0)) ∉ occ :=
  findExt_spec occ p _ 0 (exists_free occ p)

/-- ... which is the first free one, after at most `|occupied|` occupied candidates -/
theorem private_rename_search_first_free (occ : List Pred) (p : Pred) :
    (∀ j, j < findExt occ p (occ.length + 1) 0 → renamedPred p (renExt j) ∈ occ) ∧
    findExt occ p (occ.length + 1) 0 ≤ occ.length := by
  refine ⟨fun j hj => findExt_first_free occ p (occ.length + 1) 0 j (Nat.zero_le _) hj, ?_⟩
  -- were the index |occ| + 1, all of the |occ| + 1 candidates below it would be occupied
  have hle := findExt_le occ p (occ.length + 1) 0
  by_cases h : findExt occ p (occ.length + 1) 0 ≤ occ.length
  · exact h
  · exfalso
    obtain ⟨j, _, hj2, hj3⟩ := exists_free occ p
    exact hj3 (findExt_first_free occ p (occ.length + 1) 0 j (Nat.zero_le _) (by omega))

/-- propositional renaming (`rename_conflicting_symbols`): stops at the first free name -/
theorem prop_rename_search_terminates (occ : List String) (s : String) :
    propName s (findPropName occ s (occ.length + 1) 0) ∉ occ ∧
    ∀ j, j < findPropName occ s (occ.length + 1) 0 → propName s j ∈ occ :=
  ⟨findPropName_spec occ s _ 0 (exists_free_propName occ s),
   fun j hj => search_first_free (f := findPropName occ s) (fun _ => rfl) (fun _ _ => rfl) _ 0 j (Nat.zero_le _) hj⟩

/-- fresh global variables (the fallback of `choose_fresh_global_variables`): stops at the first free index
    from `k` on -/
theorem fresh_global_search_terminates (occ : List String) (k : Nat) :
    ("V" ++ toString (findFreeGlobal occ (occ.length + 1) k)) ∉ occ ∧
    ∀ j, k ≤ j → j < findFreeGlobal occ (occ.length + 1) k → ("V" ++ toString j) ∈ occ :=
  ⟨findFreeGlobal_spec occ _ k (exists_free_global occ k),
   fun j h1 h2 => search_first_free (f := findFreeGlobal occ) (fun _ => rfl) (fun _ _ => rfl) _ k j h1 h2⟩

/-- non-vacuity: with `q_p` and `q_p1` occupied the search for `q/1` passes two candidates and stops at `q_p2` -/
example : findExt [⟨"q_p", 1⟩, ⟨"q_p1", 1⟩, ⟨"q_p", 2⟩] ⟨"q", 1⟩ 4 0 = 2 := by decide +kernel

end Anthem.C16
