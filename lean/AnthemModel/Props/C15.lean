/-
  C15 — printing a parsed theory / specification / user guide re-parses to the same tree.
  The printers (Model/Print) and the parser (Model/FolParse: the PEG
  of grammar.pest with pest's rules, the tree builders, both Pratt tables of pest.rs) are modelled
  and tied to the Rust code by exact correspondence (suites `print`, `fol_parse`).
  Proved here, character level, no hypothesis on the text:
    `accepted_theory_roundtrip`, `accepted_specification_roundtrip`, `accepted_user_guide_roundtrip`:
    for every text the parser accepts, the printed tree is accepted and parses to the identical
    tree (and prints to itself: `*_print_parse_print`).
  They combine `parse*_print*` (the parser inverts the printer on every *safe* tree: names of the
  grammar's lexical shape, a guard in every comparison, a variable in every quantifier, no atomic
  formula starting with the name `not`) with `parse*_safe` (every tree in the parser's image is
  safe). Pair level: `pratt_inverts_formula_parenthesisation`,
  `pratt_inverts_integer_term_parenthesisation`.
  Printer and parser are those of anthem with its four `fix:` commits to them: db0baa0 (quantifier
  over an atomic formula that begins with a variable), 3af4e16 (word boundary after a keyword),
  d0885ee (comparison after `<-`), 2ca6488 (`not$i` at the start of a comparison).
-/
import AnthemModel.Model.Print
import AnthemModel.Proofs.FolPrattInv
import AnthemModel.Proofs.FolImage3
namespace Anthem.C15

def quantPrefix (q : Quant) (vs : List Var) : String :=
  (match q with | .all => "forall" | .ex => "exists") ++ String.join (vs.map fun v => " " ++ v.print) ++ " "

/-- A quantifier over an atomic formula prints parentheses exactly when the atomic formula's text
    begins with a variable (otherwise the variable list would swallow it). -/
theorem quantified_atomic (q : Quant) (vs : List Var) (a : AtomicF) :
    Formula.print (.quant q vs (.atomic a)) =
      if startsWithVariable a.print then quantPrefix q vs ++ "(" ++ a.print ++ ")"
      else quantPrefix q vs ++ a.print := by
  cases q <;> by_cases h : startsWithVariable a.print = true <;>
    simp [Formula.print, quantPrefix, h, String.append_assoc]

/-- … concretely: a comparison that begins with a variable gets the parentheses (fix db0baa0), an
    atom stays bare. -/
example : Formula.print (.quant .all [⟨"X", .general⟩]
    (.atomic (.cmp (.var "Y") [⟨.eq, .int (.num 3)⟩]))) = "forall X (Y = 3)" := by decide +kernel
example : Formula.print (.quant .all [⟨"X", .general⟩] (.atomic (.atom ⟨"p", [.var "X"]⟩))) =
    "forall X p(X)" := by decide +kernel

/-- The mixed level `<->`, `->`, `<-`: operands of that level are always parenthesised;
    `and` / `or` chains are printed left-nested without and right-nested with parentheses. -/
example : Formula.print (.bin .imp (.bin .imp (.atomic (.atom ⟨"a", []⟩)) (.atomic (.atom ⟨"b", []⟩)))
    (.atomic (.atom ⟨"c", []⟩))) = "(a -> b) -> c" := by decide +kernel
example : Formula.print (.bin .imp (.atomic (.atom ⟨"a", []⟩))
    (.bin .imp (.atomic (.atom ⟨"b", []⟩)) (.atomic (.atom ⟨"c", []⟩)))) = "a -> (b -> c)" := by decide +kernel
example : Formula.print (.bin .and (.bin .and (.atomic (.atom ⟨"a", []⟩)) (.atomic (.atom ⟨"b", []⟩)))
    (.atomic (.atom ⟨"c", []⟩))) = "a and b and c" := by decide +kernel
example : Formula.print (.bin .and (.atomic (.atom ⟨"a", []⟩))
    (.bin .and (.atomic (.atom ⟨"b", []⟩)) (.atomic (.atom ⟨"c", []⟩)))) = "a and (b and c)" := by decide +kernel
example : Formula.print (.not (.bin .or (.atomic (.atom ⟨"a", []⟩)) (.not (.atomic (.atom ⟨"b", []⟩))))) =
    "not (a or not b)" := by decide +kernel

/-- A right operand of `<-` that begins with a comparison is parenthesised (fix d0885ee), so the text
    after `<-` never starts a term: bare, `1 < 2 <- 3 > 2` would be read as `1 < 2 < -3 > 2`. -/
theorem comparison_after_reverse_implication (l r : Formula) (h : r.beginsWithComparison = true) :
    Formula.print (.bin .rimp l r) =
      parenIf (l.mandatory || (Formula.bin .rimp l r).prec < l.prec ||
        ((Formula.bin .rimp l r).prec = l.prec && l.rightAssoc)) l.print ++ " <- " ++
        "(" ++ r.print ++ ")" := by
  rw [Formula.print]
  simp only [h, parenIf, Conn.print, Bool.and_true, Bool.true_or, decide_true, if_true,
    String.append_assoc]

example : Formula.print (.bin .rimp (.atomic (.cmp (.int (.num 1)) [⟨.lt, .int (.num 2)⟩]))
      (.atomic (.cmp (.int (.num 3)) [⟨.gt, .int (.num 2)⟩]))) = "1 < 2 <- (3 > 2)" := by decide +kernel
example : Formula.print (.bin .rimp (.atomic (.atom ⟨"p", []⟩))
      (.bin .and (.atomic (.cmp (.int (.var "X")) [⟨.gt, .int (.num 3)⟩])) (.atomic (.atom ⟨"q", []⟩)))) =
    "p <- (X$i > 3 and q)" := by decide +kernel

/-- **Pratt inversion for formulas** (pair level): for every formula, pest's Pratt parser with
    the table of pest.rs (`<->`,`->` right-, `<-` left-associative at the weakest level, then `or`,
    `and`, prefix `not`/quantification strongest) returns the formula from the pair sequence of its
    printed text. -/
theorem pratt_inverts_formula_parenthesisation (f : Formula) : Fol.fpratt (Fol.fflat f) = some f :=
  Fol.fpratt_flat_eq f

/-- **Pratt inversion for integer terms** (pair level). -/
theorem pratt_inverts_integer_term_parenthesisation (t : ITerm) : Fol.ipratt (Fol.iflat t) = some t :=
  Fol.ipratt_flat_eq t

/-- when `Fol.fflat` makes an operand of a connective a single primary, spelled out: the conditions
    are those under which `Formula.print` (Model/Print) parenthesises it -/
theorem fflat_paren_conditions (c : Conn) (l r : Formula) :
    Fol.parenLeft c l r = (l.mandatory || decide ((Formula.bin c l r).prec < l.prec) ||
      (decide ((Formula.bin c l r).prec = l.prec) && l.rightAssoc)) ∧
    Fol.parenRight c l r = ((decide (c = .rimp) && r.beginsWithComparison) || r.mandatory ||
      decide ((Formula.bin c l r).prec < r.prec) ||
      (decide ((Formula.bin c l r).prec = r.prec) && !(Formula.bin c l r).rightAssoc)) := ⟨rfl, rfl⟩

/-- **C15, theories.** For every text the parser accepts as a theory, the printed tree is accepted
    and parses to the identical tree. -/
theorem accepted_theory_roundtrip {text : String} {t : Theory} (h : Fol.parseTheory text = some t) :
    Fol.parseTheory (printTheory t) = some t := Fol.accepted_theory_roundtrip h

/-- **C15, specifications** (annotated formulas with role, direction and name). -/
theorem accepted_specification_roundtrip {text : String} {s : Specification}
    (h : Fol.parseSpecification text = some s) : Fol.parseSpecification (printSpecification s) = some s :=
  Fol.accepted_specification_roundtrip h

/-- **C15, user guides** (input / output predicates, placeholder declarations of each sort,
    annotated formulas). -/
theorem accepted_user_guide_roundtrip {text : String} {u : UserGuide} (h : Fol.parseUserGuide text = some u) :
    Fol.parseUserGuide (printUserGuide u) = some u := Fol.accepted_user_guide_roundtrip h

/-- **The round trips for the parsers as they are** (grammar + range check of numerals and arities). -/
theorem accepted_theory_roundtrip_checked {text : String} {t : Theory} (h : Fol.parseTheoryChecked text = some t) :
    Fol.parseTheoryChecked (printTheory t) = some t := by
  rw [Fol.parseTheoryChecked_eq_filter] at h ⊢
  obtain ⟨h0, hr⟩ := Option.filter_eq_some_iff.mp h
  exact Option.filter_eq_some_iff.mpr ⟨accepted_theory_roundtrip h0, hr⟩

theorem accepted_specification_roundtrip_checked {text : String} {s : Specification}
    (h : Fol.parseSpecificationChecked text = some s) : Fol.parseSpecificationChecked (printSpecification s) = some s := by
  rw [Fol.parseSpecificationChecked_eq_filter] at h ⊢
  obtain ⟨h0, hr⟩ := Option.filter_eq_some_iff.mp h
  exact Option.filter_eq_some_iff.mpr ⟨accepted_specification_roundtrip h0, hr⟩

theorem accepted_user_guide_roundtrip_checked {text : String} {u : UserGuide}
    (h : Fol.parseUserGuideChecked text = some u) : Fol.parseUserGuideChecked (printUserGuide u) = some u := by
  rw [Fol.parseUserGuideChecked_eq_filter] at h ⊢
  obtain ⟨h0, hr⟩ := Option.filter_eq_some_iff.mp h
  exact Option.filter_eq_some_iff.mpr ⟨accepted_user_guide_roundtrip h0, hr⟩

/-- … and printing the re-parsed tree gives the same text again. -/
theorem theory_print_parse_print {text : String} {t : Theory} (h : Fol.parseTheory text = some t) :
    (Fol.parseTheory (printTheory t)).map printTheory = some (printTheory t) := by
  rw [accepted_theory_roundtrip h]; rfl

theorem specification_print_parse_print {text : String} {s : Specification} (h : Fol.parseSpecification text = some s) :
    (Fol.parseSpecification (printSpecification s)).map printSpecification = some (printSpecification s) := by
  rw [accepted_specification_roundtrip h]; rfl

theorem user_guide_print_parse_print {text : String} {u : UserGuide} (h : Fol.parseUserGuide text = some u) :
    (Fol.parseUserGuide (printUserGuide u)).map printUserGuide = some (printUserGuide u) := by
  rw [accepted_user_guide_roundtrip h]; rfl

/-- The two halves: the parser inverts the printer on every safe theory … -/
theorem theory_roundtrip (t : Theory) (ht : Fol.Theory.Safe t) : Fol.parseTheory (printTheory t) = some t :=
  Fol.parseTheory_printTheory t ht

/-- … and every theory in the image of the parser is safe. -/
theorem accepted_theory_safe {text : String} {t : Theory} (h : Fol.parseTheory text = some t) : Fol.Theory.Safe t :=
  Fol.parseTheory_safe h

/-- everything the translate and simplify commands print: their output is the printed form of a
    theory whose names come from a parsed program (C14: lexical shape) and from the translation's
    own variables; for every such safe theory the text is accepted and parses to the same tree -/
theorem printed_safe_theory_is_accepted (t : Theory) (ht : Fol.Theory.Safe t) :
    ∃ t', Fol.parseTheory (printTheory t) = some t' ∧ t' = t := ⟨t, theory_roundtrip t ht, rfl⟩

/-- Non-vacuity: a theory with a quantifier over a variable-initial comparison, nested prefixes,
    a chained comparison, both associativities, sort annotations and a `<-` in front of a
    comparison is safe, so it is the parse of its own printed text and `accepted_theory_roundtrip`
    applies to that text. -/
def sample : Theory :=
  [ .quant .all [⟨"X", .general⟩, ⟨"N", .integer⟩] (.atomic (.cmp (.var "X") [⟨.eq, .int (.num 3)⟩, ⟨.lt, .int (.var "N")⟩])),
    .not (.not (.quant .ex [⟨"S", .symbol⟩] (.atomic (.atom ⟨"p", [.symb (.var "S"), .symb (.sym "a")]⟩)))),
    .bin .imp (.bin .imp (.atomic (.atom ⟨"q", []⟩)) (.atomic .tru)) (.bin .rimp (.atomic (.atom ⟨"forall", []⟩))
      (.atomic (.cmp (.int (.bin .add (.fc "not") (.num (-1)))) [⟨.ge, .inf⟩]))) ]

theorem sample_safe : Fol.Theory.Safe sample := by
  have nil : ∀ {α : Type} {P : α → Prop}, ∀ x ∈ ([] : List α), P x := fun _ h => nomatch h
  obtain ⟨ep, eq, ea, ef, en, eX, eN, eS⟩ : "p".toList = ['p'] ∧ "q".toList = ['q'] ∧ "a".toList = ['a'] ∧
      "forall".toList = ['f', 'o', 'r', 'a', 'l', 'l'] ∧ "not".toList = ['n', 'o', 't'] ∧ "X".toList = ['X'] ∧
      "N".toList = ['N'] ∧ "S".toList = ['S'] := by decide +kernel
  have sp : Asp.SymName "p".toList := ep ▸ Or.inl ⟨'p', [], rfl, by decide, nil⟩
  have sq : Asp.SymName "q".toList := eq ▸ Or.inl ⟨'q', [], rfl, by decide, nil⟩
  have sa : Asp.SymName "a".toList := ea ▸ Or.inl ⟨'a', [], rfl, by decide, nil⟩
  have sf : Asp.SymName "forall".toList := ef ▸ Or.inl ⟨'f', ['o', 'r', 'a', 'l', 'l'], rfl, by decide, by decide⟩
  have sn : Asp.SymName "not".toList := en ▸ Or.inl ⟨'n', ['o', 't'], rfl, by decide, by decide⟩
  have vx : Fol.UVName "X".toList := eX ▸ Or.inl ⟨'X', [], rfl, by decide, nil⟩
  have vn : Fol.UVName "N".toList := eN ▸ Or.inl ⟨'N', [], rfl, by decide, nil⟩
  have vs : Fol.UVName "S".toList := eS ▸ Or.inl ⟨'S', [], rfl, by decide, nil⟩
  have pne : "p".toList ≠ ['n', 'o', 't'] := by rw [ep]; decide
  have qne : "q".toList ≠ ['n', 'o', 't'] := by rw [eq]; decide
  have fne : "forall".toList ≠ ['n', 'o', 't'] := by rw [ef]; decide
  have all : ∀ {α : Type} {P : α → Prop} {a : α} {l : List α}, P a → (∀ x ∈ l, P x) → ∀ x ∈ a :: l, P x :=
    fun h1 h2 => List.forall_mem_cons.mpr ⟨h1, h2⟩
  exact all
    ⟨List.cons_ne_nil _ _, all vx (all vn nil), ⟨vx, List.cons_ne_nil _ _, all trivial (all vn nil)⟩, trivial⟩
    (all ⟨List.cons_ne_nil _ _, all vs nil, ⟨sp, all vs (all sa nil)⟩, pne⟩
    (all ⟨⟨⟨⟨sq, nil⟩, qne⟩, trivial, trivial⟩, ⟨⟨sf, nil⟩, fne⟩,
        ⟨⟨sn, trivial⟩, List.cons_ne_nil _ _, all trivial nil⟩, trivial⟩
      nil))

example : Fol.parseTheory (printTheory sample) = some sample := theory_roundtrip sample sample_safe
example : Fol.parseTheory (printTheory sample) = some sample := accepted_theory_roundtrip (theory_roundtrip sample sample_safe)

end Anthem.C15
