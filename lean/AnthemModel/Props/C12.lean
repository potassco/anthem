/-
  C12 — axioms anthem adds on its own are true in every standard interpretation.
  The standard TPTP structure: `general := Dom`, `$int := Int`, `symbol := String`,
  `f__integer__ := Dom.num`, `f__symbolic__ := Dom.sym`, `c__infimum__ := Dom.inf`,
  `c__supremum__ := Dom.sup`, `p__less_equal__ := Dom.le`, `p__less__ := Dom.lt`,
  `p__greater_equal__ a b := Dom.le b a`, `p__greater__ a b := Dom.lt b a`,
  `p__is_integer__ x := ∃ n, x = num n`, `p__is_symbolic__ x := ∃ s, x = sym s`.
  Each field of `std_satisfies_preamble` is one axiom of standard_interpretation.p read in that
  structure (the file's text is tied to the transcription in Model/TptpFmt.lean by the problem-text
  correspondence).
-/
import AnthemModel.Semantics.Fol
import AnthemModel.Model.Strong
import AnthemModel.Model.TptpFmt
import AnthemModel.Props.C05
import AnthemModel.Proofs.Decompose
import AnthemModel.Semantics.Tff
namespace Anthem.C12

/-- The meaning the relation symbols have in `Semantics/Fol` coincides with the TPTP reading above
    (so the preamble and the source-language comparisons talk about the same order). -/
theorem rel_holds_standard (r : Rel) (a b : Dom) :
    r.holds a b ↔ (match r with
      | .eq => a = b | .ne => a ≠ b | .le => Dom.le a b | .lt => Dom.lt a b
      | .ge => Dom.le b a | .gt => Dom.lt b a) := by
  cases r <;> rfl

theorem mem_insertStr {s x : String} {l : List String} : x ∈ insertStr s l ↔ x = s ∨ x ∈ l := by
  induction l with
  | nil => simp only [insertStr, List.mem_singleton, List.not_mem_nil, or_false]
  | cons t ts ih =>
    rw [insertStr]
    split
    · rw [List.mem_cons, ih, List.mem_cons]; exact or_left_comm
    · exact List.mem_cons

theorem mem_sortStrs {x : String} {l : List String} : x ∈ sortStrs l ↔ x ∈ l := by
  unfold sortStrs
  induction l with
  | nil => simp
  | cons t ts ih => simp only [List.foldr_cons, mem_insertStr, ih, List.mem_cons]

def StrictSorted : List String → Prop
  | [] => True
  | [_] => True
  | a :: b :: rest => a < b ∧ StrictSorted (b :: rest)

theorem strictSorted_tail {a : String} {l : List String} (h : StrictSorted (a :: l)) : StrictSorted l := by
  cases l with
  | nil => trivial
  | cons b rest => exact h.2

theorem strictSorted_cons_iff {a : String} {l : List String} :
    StrictSorted (a :: l) ↔ (∀ y ∈ l, a < y) ∧ StrictSorted l := by
  induction l generalizing a with
  | nil => exact ⟨fun _ => ⟨fun _ hy => (nomatch hy), trivial⟩, fun _ => trivial⟩
  | cons b _ ih =>
    exact ⟨fun h => ⟨fun y hy => (List.mem_cons.mp hy).elim (fun e => e ▸ h.1)
        fun hy => String.lt_trans h.1 ((ih.mp h.2).1 y hy), h.2⟩,
      fun h => ⟨h.1 b List.mem_cons_self, h.2⟩⟩

theorem insertStr_sorted {s : String} {l : List String} (hl : StrictSorted l) (hs : s ∉ l) :
    StrictSorted (insertStr s l) := by
  induction l with
  | nil => trivial
  | cons t ts ih =>
    rw [insertStr]
    split
    · rename_i h
      have ⟨hlt, hts⟩ := strictSorted_cons_iff.mp hl
      refine strictSorted_cons_iff.mpr ⟨fun y hy => ?_, ih hts (List.not_mem_of_not_mem_cons hs)⟩
      exact (mem_insertStr.mp hy).elim (fun e => e ▸ h) (hlt y)
    · rename_i h
      -- `s ≤ t` and `s ≠ t`
      exact ⟨String.not_le.mp fun h' => hs (String.le_antisymm (String.not_lt.mp h) h' ▸ List.mem_cons_self), hl⟩

theorem sortStrs_sorted {l : List String} (h : l.Nodup) : StrictSorted (sortStrs l) := by
  induction l with
  | nil => trivial
  | cons t ts ih =>
    have hn := List.nodup_cons.mp h
    exact insertStr_sorted (ih hn.2) fun hm => hn.1 (mem_sortStrs.mp hm)

theorem windows2_lt {l : List String} (h : StrictSorted l) : ∀ p ∈ windows2 l, p.1 < p.2 := by
  induction l with
  | nil => exact fun _ hp => nomatch hp
  | cons a l ih =>
    cases l with
    | nil => exact fun _ hp => nomatch hp
    | cons b rest => exact fun p hp => (List.mem_cons.mp hp).elim (fun e => e ▸ h.1) (ih h.2 p)

/-- **Symbol chain.** For a duplicate-free symbol list (an `IndexSet`), every emitted axiom
    `p__less__(f__symbolic__(a), f__symbolic__(b))` is true in the standard (lexicographic) order,
    and the chain mentions exactly the symbols of the problem. -/
theorem symbol_chain_true (syms : List String) (hnd : syms.Nodup) :
    ∀ p ∈ windows2 (sortStrs syms), Dom.lt (.sym p.1) (.sym p.2) :=
  fun p hp => String.not_le.mpr (windows2_lt (sortStrs_sorted hnd) p hp)

theorem symbol_chain_covers (syms : List String) (s : String) : s ∈ sortStrs syms ↔ s ∈ syms :=
  mem_sortStrs

/-- In *any* structure satisfying transitivity and the definition of `p__less__`, a strictly
    increasing chain makes all its members pairwise distinct — stated for the standard order. -/
theorem chain_distinct : ∀ {l : List String}, StrictSorted l → l.Nodup := by
  intro l
  induction l with
  | nil => exact fun _ => List.nodup_nil
  | cons a _ ih =>
    intro h
    have ⟨hlt, hl⟩ := strictSorted_cons_iff.mp h
    exact List.nodup_cons.mpr ⟨fun hm => String.lt_irrefl a (hlt a hm), ih hl⟩

/-- **Transition axioms are true** in every classical interpretation that arises from `H ⊆ T`. -/
theorem transition_true {J : Interp} {M : HTI} (hm : C05.Merges J M) (hs : M.Sub) (p : Pred)
    (ρ : Asg) : sat J (transitionAxiom p) ρ := by
  unfold transitionAxiom
  have body : ∀ τ : Asg, sat J (.bin .imp p.toFormula.here p.toFormula.there) τ := by
    intro τ
    simp only [sat, Pred.toFormula, Formula.here, Formula.there, prependPred, AtomicF.sat]
    intro h
    exact (hm.t _ _).mpr (hs _ _ ((hm.h _ _).mp h))
  show sat J ((Formula.bin .imp p.toFormula.here p.toFormula.there).quantify .all _) ρ
  rw [sat_quantify]
  simp only [sat]
  exact bindAll_iff.mpr (fun τ _ => body τ)

/-- **The standard structure of every interpretation is a model of the whole preamble** (the 15
    axioms as one statement about the TFF structure that `C06.rendering_preserves_meaning` uses). -/
theorem std_satisfies_preamble (I : Interp) : Preamble (stdStruct I) where
  p__is_integer__def_ax := fun _ => Iff.rfl
  p__is_symbolic__def_ax := fun _ => Iff.rfl
  general_universe_ax := fun X => by
    cases X
    · exact Or.inl rfl
    · exact Or.inr (Or.inl ⟨_, rfl⟩)
    · exact Or.inr (Or.inr (Or.inl ⟨_, rfl⟩))
    · exact Or.inr (Or.inr (Or.inr rfl))
  f__integer__def_ax := fun _ _ => ⟨Dom.num.inj, congrArg Dom.num⟩
  f__symbolic__def_ax := fun _ _ => ⟨Dom.sym.inj, congrArg Dom.sym⟩
  numeral_ordering_ax := fun _ _ => Iff.rfl
  antisymmetric_ordering_ax := fun _ _ h => Dom.le_antisymm h.1 h.2
  transitive_ordering_ax := fun _ _ _ h => Dom.le_trans h.1 h.2
  strongly_connected_ordering_ax := Dom.le_total
  p__less__def_ax := fun _ _ => Dom.lt_iff_le_and_ne
  p__greater_equal__def_ax := fun _ _ => Iff.rfl
  p__greater__def_ax := fun _ _ => Dom.lt_iff_le_and_ne.trans (and_congr_right fun _ => ne_comm)
  minimal_element_ax := fun _ => not_false
  numerals_less_than_symbols_ax := fun _ _ => not_false
  maximal_element_ax := fun _ => not_false

/-- … and of the `symbol_order` axioms of any problem (duplicate-free symbol list). -/
theorem std_satisfies_symbol_order (I : Interp) (syms : List String) (hnd : syms.Nodup) :
    SymbolOrder (stdStruct I) syms := symbol_chain_true syms hnd

/-- Non-vacuity: the symbol chain of a three-symbol problem. -/
example : windows2 (sortStrs ["c", "a", "b"]) = [("a", "b"), ("b", "c")] := by decide +kernel

end Anthem.C12
