/-
  C05 — gamma reduces here-and-there satisfaction to classical satisfaction.
-/
import AnthemModel.Semantics.Fol
import AnthemModel.Model.Gamma
namespace Anthem.C05

/-- `J` gives each predicate's h-copy the extent it has in `H`, its t-copy the extent in `T`. -/
structure Merges (J : Interp) (M : HTI) : Prop where
  h : ∀ p a, J.pred ("h" ++ p) a ↔ M.h p a
  t : ∀ p a, J.pred ("t" ++ p) a ↔ M.t p a
  fc : J.fc = M.fc

theorem sat_prepend {J : Interp} {pre : String} {P : PredI} {fc : FcI}
    (hp : ∀ p a, J.pred (pre ++ p) a ↔ P p a) (hfc : J.fc = fc) :
    ∀ (F : Formula) (ρ : Asg), sat J (prependPred pre F) ρ ↔ sat ⟨P, fc⟩ F ρ := by
  intro F
  induction F with
  | atomic a =>
    intro ρ
    cases a with
    | atom a => exact hfc ▸ hp _ _
    | cmp t gs => exact hfc ▸ Iff.rfl
    | tru | fls => exact Iff.rfl
  | not f ih => exact fun ρ => not_congr (ih ρ)
  | bin c l r ihl ihr => intro ρ; cases c <;> simp only [prependPred, sat, ihl, ihr]
  | quant q vs f ih =>
    intro ρ
    cases q
    · exact bindAll_congr ih ρ
    · exact bindEx_congr ih ρ

theorem sat_prepend_h {J : Interp} {M : HTI} (hm : Merges J M) :
    ∀ (F : Formula) (ρ : Asg), sat J (prependPred "h" F) ρ ↔ sat ⟨M.h, M.fc⟩ F ρ :=
  sat_prepend hm.h hm.fc

theorem there_correct {J : Interp} {M : HTI} (hm : Merges J M) (F : Formula) (ρ : Asg) :
    ht M F .there ρ ↔ sat J F.there ρ := by
  rw [ht_there_eq_sat, Formula.there, sat_prepend hm.t hm.fc]

/-- **C05, first sentence.** For every formula, every HT interpretation `(H,T)` (the hypothesis
    `H ⊆ T` is not even needed for the equivalence), every merged classical interpretation and
    every assignment: `(H,T), here ⊨ F ↔ J ⊨ gamma F`. -/
theorem gamma_correct {J : Interp} {M : HTI} (hm : Merges J M) :
    ∀ (F : Formula) (ρ : Asg), ht M F .here ρ ↔ sat J (gamma F) ρ := by
  intro F
  induction F with
  | atomic a => exact fun ρ => (sat_prepend hm.h hm.fc (.atomic a) ρ).symm
  | not f _ => exact fun ρ => not_congr (there_correct hm f ρ)
  | bin c l r ihl ihr =>
    intro ρ
    cases c <;> simp only [gamma, ht, sat, ihl, ihr, there_correct hm]
    exact ⟨fun ⟨⟨a, b⟩, ⟨c, d⟩⟩ => ⟨⟨a, c⟩, ⟨b, d⟩⟩, fun ⟨⟨a, c⟩, ⟨b, d⟩⟩ => ⟨⟨a, b⟩, ⟨c, d⟩⟩⟩
  | quant q vs f ih =>
    intro ρ
    cases q
    · exact bindAll_congr ih ρ
    · exact bindEx_congr ih ρ

/-- **C05, second sentence.** Distinct predicates receive distinct h- and t-copies: the map
    `(w, p) ↦ w ++ p` is injective on `{"h","t"} × String`. -/
theorem prefix_injective {w₁ w₂ p₁ p₂ : String}
    (h₁ : w₁ = "h" ∨ w₁ = "t") (h₂ : w₂ = "h" ∨ w₂ = "t") (e : w₁ ++ p₁ = w₂ ++ p₂) :
    w₁ = w₂ ∧ p₁ = p₂ := by
  have key : ∀ (a b : Char) (p q : String),
      String.singleton a ++ p = String.singleton b ++ q → a = b ∧ p = q := by
    intro a b p q h
    have := congrArg String.toList h
    simp [String.toList_append] at this
    exact ⟨this.1, String.toList_inj.mp this.2⟩
  rcases h₁ with rfl | rfl <;> rcases h₂ with rfl | rfl
  · exact ⟨rfl, (key 'h' 'h' p₁ p₂ e).2⟩
  · exact absurd (key 'h' 't' p₁ p₂ e).1 (by decide)
  · exact absurd (key 't' 'h' p₁ p₂ e).1 (by decide)
  · exact ⟨rfl, (key 't' 't' p₁ p₂ e).2⟩

/-- Well-definedness: for every HT interpretation a merged classical interpretation exists,
    so `gamma_correct` is never vacuous. -/
theorem merge_exists (M : HTI) : ∃ J : Interp, Merges J M := by
  refine ⟨⟨fun s a => (∃ p, s = "h" ++ p ∧ M.h p a) ∨ (∃ p, s = "t" ++ p ∧ M.t p a), M.fc⟩, ?_, ?_, rfl⟩
  · intro p a
    constructor
    · rintro (⟨q, e, h⟩ | ⟨q, e, _⟩)
      · rw [(prefix_injective (Or.inl rfl) (Or.inl rfl) e).2]; exact h
      · exact absurd (prefix_injective (Or.inl rfl) (Or.inr rfl) e).1 (by decide)
    · exact fun h => Or.inl ⟨p, rfl, h⟩
  · intro p a
    constructor
    · rintro (⟨q, e, _⟩ | ⟨q, e, h⟩)
      · exact absurd (prefix_injective (Or.inr rfl) (Or.inl rfl) e).1 (by decide)
      · rw [(prefix_injective (Or.inr rfl) (Or.inr rfl) e).2]; exact h
    · exact fun h => Or.inr ⟨p, rfl, h⟩

/-- Non-vacuity / sanity: on `p -> not q` the translation is the documented one. -/
example : gamma (.bin .imp (.atomic (.atom ⟨"p", []⟩)) (.not (.atomic (.atom ⟨"q", []⟩)))) =
    .bin .and (.bin .imp (.atomic (.atom ⟨"hp", []⟩)) (.not (.atomic (.atom ⟨"tq", []⟩))))
              (.bin .imp (.atomic (.atom ⟨"tp", []⟩)) (.not (.atomic (.atom ⟨"tq", []⟩)))) := by
  decide +kernel

end Anthem.C05
