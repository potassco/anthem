/-
  C11 — applicability checks are exact and enforced.
  The cycle test used for tightness / private recursion is sound (a reported cycle is a real cycle of
  the dependency graph) and complete (Proofs/Graph.lean), `is_tight` depends only on the positive edges,
  a choice head on a private predicate counts as private recursion, and an external-equivalence task
  yields problems only if every applicability condition holds. The cycle test is compared with petgraph
  on every generated input.
-/
import AnthemModel.Model.Analyze
import AnthemModel.Model.External
import AnthemModel.Proofs.Graph
namespace Anthem.C11
open Asp

/-- **Completeness of the cycle test** (all edge targets among the nodes): every real cycle is
    reported. Together with `isCyclic_sound`: the test is exact. -/
theorem isCyclic_complete (nodes : List Pred) (es : Edges) (htgt : ∀ e ∈ es, e.2 ∈ nodes)
    (h : ∃ v ∈ nodes, Path es v v) : isCyclic nodes es = true :=
  Anthem.isCyclic_complete nodes es htgt h

/-- **`is_tight` is exact**: a program is reported tight iff no predicate depends positively on itself. -/
theorem tight_iff_acyclic (p : Program) : isTight p = true ↔ ∀ v, ¬ Path (positiveEdges p) v v :=
  isTight_iff p

/-- What the private-recursion check is for (proved in Proofs/PrivateUnique.lean, restated in
    Props/C02 as `cannot_produce_public_part`): without private recursion the completed definitions of
    the private predicates determine their extents. -/
theorem private_recursion_is_exact (p : Program) (priv : List Pred)
    (htgt : ∀ e ∈ privateEdges p priv, e.2 ∈ p.preds.filter (· ∈ priv)) :
    isCyclic (p.preds.filter (· ∈ priv)) (privateEdges p priv) = true ↔
      ∃ v ∈ p.preds.filter (· ∈ priv), Path (privateEdges p priv) v v :=
  isCyclic_iff _ _ htgt

/-- Hence: a program reported as *not* tight really has a positive dependency cycle. -/
theorem not_tight_has_cycle (p : Program) (h : isTight p = false) :
    ∃ v ∈ p.preds, Path (positiveEdges p) v v := by
  simp only [isTight, Bool.not_eq_false'] at h
  exact isCyclic_sound _ _ h

/-- A choice rule with a private head is private recursion, whatever the graph. -/
theorem choice_private_is_recursion (p : Program) (priv : List Pred) (a : Asp.Atom)
    (body : List BodyAtom) (hr : (⟨.choice a, body⟩ : Rule) ∈ p) (ha : a.predicate ∈ priv) :
    hasPrivateRecursion p priv = true := by
  simp only [hasPrivateRecursion, Bool.or_eq_true, List.any_eq_true]
  exact Or.inl ⟨_, hr, by simpa using ha⟩

/-- a check that lets the chain end in `none` did not fire -/
theorem ite_some_eq_none {α} {c : Prop} [Decidable c] {e : α} {x : Option α}
    (h : (if c then some e else x) = none) : ¬ c ∧ x = none := by
  by_cases hc : c
  · rw [if_pos hc] at h; cases h
  · rw [if_neg hc] at h; exact ⟨hc, h⟩

theorem programError_none {t : ExternalTask} {p : Program} {priv : List Pred}
    (h : programError t p priv = none) :
    (isTight p = true ∨ t.bypassTightness = true) ∧ hasPrivateRecursion p priv = false ∧
      ∀ q ∈ t.userGuide.inputs, q ∉ p.headPreds := by
  obtain ⟨h1, h⟩ := ite_some_eq_none h
  obtain ⟨h2, h⟩ := ite_some_eq_none h
  obtain ⟨h3, -⟩ := ite_some_eq_none h
  refine ⟨?_, Bool.eq_false_iff.mpr h2, fun q hq hmem => h3 (List.any_eq_true.mpr ⟨q, hq, decide_eq_true hmem⟩)⟩
  cases ht : isTight p
  · cases hb : t.bypassTightness
    · rw [ht, hb] at h1; exact absurd rfl h1
    · exact Or.inr rfl
  · exact Or.inl rfl

/-- **Enforcement.** If an external-equivalence task yields problems (for any pass bound), then
    every applicability condition holds: tau* representation, input and output declarations
    disjoint, the program tight (or `--bypass-tightness`), free of private recursion, no input
    predicate in a rule head, placeholders declared once, user-guide assumptions over input
    predicates only — and the same for a specification program, or for a specification: its
    assumptions mention no output predicate and only inputs / the program's private predicates,
    and only assumption / spec roles occur. -/
theorem external_ok_implies (t : ExternalTask) (fuel : Nat) (ps : List Problem)
    (h : externalProblems t fuel = .ok ps) :
    t.rep = .tauStar ∧ (∀ q ∈ t.userGuide.inputs, q ∉ t.userGuide.outputs) ∧
    ((isTight t.program = true ∨ t.bypassTightness = true) ∧
      hasPrivateRecursion t.program t.progPrivate = false ∧
      ∀ q ∈ t.userGuide.inputs, q ∉ t.program.headPreds) ∧
    allUnique (t.userGuide.placeholders.map (·.name)) = true ∧
    assumptionError t [] t.userGuide.formulas = none ∧
    (match t.specification with
      | .inl p => (isTight p = true ∨ t.bypassTightness = true) ∧
          hasPrivateRecursion p t.specPrivate = false ∧ ∀ q ∈ t.userGuide.inputs, q ∉ p.headPreds
      | .inr s => (∀ f ∈ s, f.role = .assumption → ∀ q ∈ f.formula.preds, q ∉ t.userGuide.outputs) ∧
          assumptionError t t.progPrivate s = none ∧
          ∀ f ∈ s, f.role = .assumption ∨ f.role = .spec) := by
  have hpre : precheck t = none := by
    unfold externalProblems at h
    cases hp : precheck t with
    | none => rfl
    | some e => rw [hp] at h; cases h
  -- the checks in source order: each is an `if` or a `match` whose error branch is impossible
  unfold precheck at hpre
  dsimp only at hpre
  obtain ⟨hrep, hpre⟩ := ite_some_eq_none hpre
  obtain ⟨hov, hpre⟩ := ite_some_eq_none hpre
  cases hprog : programError t t.program t.progPrivate with
  | some e => rw [hprog] at hpre; cases hpre
  | none =>
  rw [hprog] at hpre
  dsimp only at hpre
  obtain ⟨hph, hpre⟩ := ite_some_eq_none hpre
  cases hass : assumptionError t [] t.userGuide.formulas with
  | some e => rw [hass] at hpre; cases hpre
  | none =>
  rw [hass] at hpre
  dsimp only at hpre
  refine ⟨Classical.not_not.mp hrep, ?_, programError_none hprog, by simpa using hph, rfl, ?_⟩
  · intro q hq hmem
    exact hov (List.any_eq_true.mpr ⟨q, hq, decide_eq_true hmem⟩)
  · cases hs : t.specification with
    | inl p =>
      rw [hs] at hpre
      exact programError_none hpre
    | inr s =>
      rw [hs] at hpre
      dsimp only at hpre ⊢
      obtain ⟨hout, hpre⟩ := ite_some_eq_none hpre
      cases hass2 : assumptionError t t.progPrivate s with
      | some e => rw [hass2] at hpre; cases hpre
      | none =>
      rw [hass2] at hpre
      dsimp only at hpre
      obtain ⟨hroles, -⟩ := ite_some_eq_none hpre
      refine ⟨fun f hf hr q hq hmem => hout ?_, rfl, fun f hf => ?_⟩
      · simp only [List.any_eq_true, Bool.and_eq_true, decide_eq_true_eq]
        exact ⟨f, hf, hr, q, hq, hmem⟩
      · simp only [List.any_eq_true, Bool.not_eq_true', Bool.or_eq_false_iff,
          decide_eq_false_iff_not, not_exists, not_and] at hroles
        by_cases h1 : f.role = .assumption
        · exact Or.inl h1
        · exact Or.inr (Classical.not_not.mp (hroles f hf h1))

/-- … and on any violated check nothing is emitted: the result is an error. -/
theorem external_err_of_precheck (t : ExternalTask) (fuel : Nat) (e : TaskError)
    (h : precheck t = some e) : externalProblems t fuel = .err e := by
  simp [externalProblems, h]

/-- Non-vacuity: negative dependencies do not count for tightness, positive ones do. -/
example : isTight [⟨.basic ⟨"a", []⟩, [.lit ⟨.neg, ⟨"a", []⟩⟩]⟩] = true := by decide +kernel
example : isTight [⟨.basic ⟨"a", []⟩, [.lit ⟨.pos, ⟨"b", []⟩⟩]⟩,
                   ⟨.basic ⟨"b", []⟩, [.lit ⟨.pos, ⟨"a", []⟩⟩]⟩] = false := by decide +kernel

end Anthem.C11
