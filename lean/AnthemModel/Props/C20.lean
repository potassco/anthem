/-
  C20 — the role of each input file depends only on its extension and the argument order.
-/
import AnthemModel.Model.Files
namespace Anthem.C20

theorem foldl_push (paths : List String) (f : Files) :
    paths.foldl Files.push f =
      { programs := f.programs ++ paths.filter (fun p => bucketOf (baseName p) = .program)
        specifications := f.specifications ++ paths.filter (fun p => bucketOf (baseName p) = .specification)
        userGuides := f.userGuides ++ paths.filter (fun p => bucketOf (baseName p) = .userGuide)
        proofOutlines := f.proofOutlines ++ paths.filter (fun p => bucketOf (baseName p) = .proofOutline)
        other := f.other ++ paths.filter (fun p => bucketOf (baseName p) = .other) } := by
  induction paths generalizing f with
  | nil => simp only [List.foldl_nil, List.filter_nil, List.append_nil]
  | cons p ps ih =>
    rw [List.foldl_cons, ih, Files.push]
    cases h : bucketOf (baseName p) <;> simp [h]

/-- **Bucketing by extension.** The programs (specifications, user guides, proof outlines) are
    exactly the visited files with extension lp (spec, ug, po), in visiting order. -/
theorem bucket_by_extension (paths : List String) :
    (Files.ofPaths paths).programs = paths.filter (fun p => bucketOf (baseName p) = .program) ∧
    (Files.ofPaths paths).specifications = paths.filter (fun p => bucketOf (baseName p) = .specification) ∧
    (Files.ofPaths paths).userGuides = paths.filter (fun p => bucketOf (baseName p) = .userGuide) ∧
    (Files.ofPaths paths).proofOutlines = paths.filter (fun p => bucketOf (baseName p) = .proofOutline) := by
  rw [Files.ofPaths, foldl_push]
  exact ⟨rfl, rfl, rfl, rfl⟩

theorem filter_eq_singleton_of_perm {paths paths' : List String} (h : paths.Perm paths') (q : String → Bool)
    {s : String} (hs : paths.filter q = [s]) : paths'.filter q = [s] :=
  List.perm_singleton.mp (hs ▸ (h.filter q).symm)

/-- **.spec / .ug / .po anywhere.** If exactly one visited file has a given one of these
    extensions, it is chosen for that role whatever the order of the visited files. -/
theorem spec_anywhere (paths paths' : List String) (h : paths.Perm paths') (s : String)
    (hs : paths.filter (fun p => bucketOf (baseName p) = .specification) = [s]) :
    (Files.ofPaths paths').specification = some (true, s) := by
  rw [Files.specification, (bucket_by_extension paths').2.1, filter_eq_singleton_of_perm h _ hs]
  rfl

theorem ug_anywhere (paths paths' : List String) (h : paths.Perm paths') (s : String)
    (hs : paths.filter (fun p => bucketOf (baseName p) = .userGuide) = [s]) :
    (Files.ofPaths paths').userGuide = some s := by
  rw [Files.userGuide, (bucket_by_extension paths').2.2.1, filter_eq_singleton_of_perm h _ hs]
  rfl

theorem po_anywhere (paths paths' : List String) (h : paths.Perm paths') (s : String)
    (hs : paths.filter (fun p => bucketOf (baseName p) = .proofOutline) = [s]) :
    (Files.ofPaths paths').proofOutline = some s := by
  rw [Files.proofOutline, (bucket_by_extension paths').2.2.2, filter_eq_singleton_of_perm h _ hs]
  rfl

/-- **.lp roles.** The first and second `.lp` file in visiting order are left and right; for
    external equivalence the first is the specification iff there is no `.spec` file, and the
    program under verification is the second resp. the first. -/
theorem lp_roles (paths : List String) :
    let lps := paths.filter (fun p => bucketOf (baseName p) = .program)
    let specs := paths.filter (fun p => bucketOf (baseName p) = .specification)
    (Files.ofPaths paths).left = lps.head? ∧ (Files.ofPaths paths).right = lps[1]? ∧
    (Files.ofPaths paths).program = (if specs.isEmpty then lps[1]? else lps.head?) ∧
    (specs = [] → (Files.ofPaths paths).specification = lps.head?.map fun p => (false, p)) := by
  obtain ⟨h1, h2, _, _⟩ := bucket_by_extension paths
  refine ⟨congrArg List.head? h1, congrArg (·[1]?) h1, by rw [Files.program, h1, h2], fun hs => ?_⟩
  rw [Files.specification, h2.trans hs, h1]
  rfl

/-- **Swapping the two programs** swaps left and right. -/
theorem swap_programs (a b : String) (ha : bucketOf (baseName a) = .program)
    (hb : bucketOf (baseName b) = .program) :
    (Files.ofPaths [a, b]).left = (Files.ofPaths [b, a]).right ∧
    (Files.ofPaths [a, b]).right = (Files.ofPaths [b, a]).left := by
  simp only [Files.ofPaths, List.foldl_cons, List.foldl_nil, Files.push, ha, hb]
  exact ⟨rfl, rfl⟩

/-- `Path::extension` corner cases. -/
example : extensionOf "a.lp" = some "lp" ∧ extensionOf ".lp" = none ∧ extensionOf "a.b.spec" = some "spec"
    ∧ extensionOf "lp" = none ∧ extensionOf "a." = some "" ∧ extensionOf "..ug" = some "ug" := by decide +kernel

/-! `Files::sort` visits every argument in the order given (`WalkDir::new(arg).sort_by_file_name()`), a directory's entries by
name, depth first; only regular files are kept. `walkPaths` is that walk on an abstract tree. -/

theorem walk_file (pre n : String) : walkPaths pre (.file n) = [pre ++ n] := by
  rw [walkPaths]

/-- a symbolic link is never visited as a file - named as an argument or found inside a directory -/
theorem walk_link (pre n : String) : walkPaths pre (.link n) = [] := by
  rw [walkPaths]

/-- a directory: its entries in name order, depth first, under the directory's path -/
theorem walk_dir (pre n : String) (cs : List FTree) :
    walkPaths pre (.dir n cs) = (sortTrees cs).flatMap (walkPaths (pre ++ n ++ "/")) := by
  rw [walkPaths, List.flatMap_subtype, List.unattach_attach]
  exact fun _ _ => rfl

/-- **Argument order.** The files of the first arguments come before the files of the later ones, whatever their names
    (no sorting across arguments). -/
theorem walk_arguments_in_order (pre : String) (a b : List FTree) :
    (a ++ b).flatMap (walkPaths pre) = a.flatMap (walkPaths pre) ++ b.flatMap (walkPaths pre) :=
  List.flatMap_append

/-- **Links play no role.** Removing the symbolic links from a list of arguments (or of directory entries) does not change
    the files visited. -/
theorem links_contribute_nothing (pre : String) : ∀ l : List FTree,
    (l.filter (fun t => !t.isLink)).flatMap (walkPaths pre) = l.flatMap (walkPaths pre) := by
  intro l
  induction l with
  | nil => rfl
  | cons t ts ih =>
    cases t with
    | link n => rw [List.flatMap_cons, walk_link]; exact ih
    | file n | dir n cs => exact congrArg (walkPaths pre _ ++ ·) ih

theorem links_in_a_directory_contribute_nothing (pre n : String) (cs : List FTree) :
    walkPaths pre (.dir n cs) = ((sortTrees cs).filter (fun t => !t.isLink)).flatMap (walkPaths (pre ++ n ++ "/")) := by
  rw [walk_dir, links_contribute_nothing]

/-- non-vacuity / the shape C20-13 needs: `verify k.lp link.lp d` with `link.lp` a symbolic link and `d` holding `b.lp`,
    a link `a.lp` and `x.lp`: the programs are `k.lp` (named first) and then `d/b.lp`, `d/x.lp` from the walk of `d` -/
example : (Files.ofPaths ([FTree.file "k.lp", .link "link.lp", .dir "d" [.file "x.lp", .link "a.lp", .file "b.lp"]].flatMap (walkPaths ""))).programs
    = ["k.lp", "d/b.lp", "d/x.lp"] := by
  have hs : sortTrees [FTree.file "x.lp", .link "a.lp", .file "b.lp"] = [.link "a.lp", .file "b.lp", .file "x.lp"] :=
    rfl
  simp only [List.flatMap_cons, List.flatMap_nil, walk_file, walk_link, walk_dir, hs, List.append_nil,
    List.nil_append, List.cons_append]
  decide +kernel

end Anthem.C20
