/-
  C03 — strong-equivalence obligations are refuted exactly by HT-distinguishing pairs.
  `gamma_direction_refutes` is the gamma / decomposition core, for the problem anthem assembles in one
  direction: transition axioms and gamma(left) as axioms, gamma(right) as conjectures. The statements about
  whole tasks (`strong_refutes` and what follows it) add the translation step (C01/C08), simplification (C07)
  and the renaming of clashing propositional predicates.
-/
import AnthemModel.Props.C05
import AnthemModel.Props.C19
import AnthemModel.Model.Strong
import AnthemModel.Proofs.StrongSem
import AnthemModel.Proofs.PropRename
import AnthemModel.Proofs.StrongValid
namespace Anthem.C03
open Asp

def newFormulas (t : Theory) (pre : String) (role : PRole) : List AnnF :=
  (Problem.addTheory.enumerateFrom 0 t).map fun (i, f) => ⟨pre ++ toString i, role, f⟩

theorem addTheory_formulas (p : Problem) (t : Theory) (pre : String) (role : PRole) :
    (p.addTheory t pre role).formulas = p.formulas ++ newFormulas t pre role := rfl

theorem newFormulas_role (t : Theory) (pre : String) (role : PRole) :
    ∀ a ∈ newFormulas t pre role, a.role = role := by
  intro a ha
  simp only [newFormulas, List.mem_map, Prod.exists] at ha
  obtain ⟨i, f, _, rfl⟩ := ha
  rfl

theorem newFormulas_formulas (t : Theory) (pre : String) (role : PRole) :
    (newFormulas t pre role).map (·.formula) = t := by
  simp only [newFormulas, List.map_map]
  exact enumerateFrom_map_snd t 0

theorem addTheory_axioms_axiom (p : Problem) (t : Theory) (pre : String) :
    (p.addTheory t pre .axiom).axioms.map (·.formula) = p.axioms.map (·.formula) ++ t := by
  simp only [Problem.axioms, addTheory_formulas, List.filter_append, List.map_append]
  rw [(List.filter_eq_self (l := newFormulas t pre .axiom)).mpr fun a ha => by simp [newFormulas_role t pre _ a ha],
    newFormulas_formulas]

theorem addTheory_axioms_conj (p : Problem) (t : Theory) (pre : String) :
    (p.addTheory t pre .conjecture).axioms = p.axioms := by
  simp only [Problem.axioms, addTheory_formulas, List.filter_append]
  rw [(List.filter_eq_nil_iff (l := newFormulas t pre .conjecture)).mpr fun a ha => by simp [newFormulas_role t pre _ a ha]]
  simp

theorem addTheory_conj_axiom (p : Problem) (t : Theory) (pre : String) :
    (p.addTheory t pre .axiom).conjectures = p.conjectures := by
  simp only [Problem.conjectures, addTheory_formulas, List.filter_append]
  rw [(List.filter_eq_nil_iff (l := newFormulas t pre .axiom)).mpr fun a ha => by simp [newFormulas_role t pre _ a ha]]
  simp

theorem addTheory_conj_conj (p : Problem) (t : Theory) (pre : String) :
    (p.addTheory t pre .conjecture).conjectures.map (·.formula) =
      p.conjectures.map (·.formula) ++ t := by
  simp only [Problem.conjectures, addTheory_formulas, List.filter_append, List.map_append]
  rw [(List.filter_eq_self (l := newFormulas t pre .conjecture)).mpr fun a ha => by simp [newFormulas_role t pre _ a ha],
    newFormulas_formulas]

/-- the problem of one direction before symbol renaming and unique naming -/
def coreProblem (name : String) (tr ax cj : Theory) : Problem :=
  (((⟨name, []⟩ : Problem).addTheory tr "transition_axiom_" .axiom).addTheory ax "left_" .axiom).addTheory
    cj "right_" .conjecture

theorem coreProblem_axioms (name : String) (tr ax cj : Theory) :
    (coreProblem name tr ax cj).axioms.map (·.formula) = tr ++ ax := by
  unfold coreProblem
  rw [addTheory_axioms_conj, addTheory_axioms_axiom, addTheory_axioms_axiom]
  simp [Problem.axioms]

theorem coreProblem_conjectures (name : String) (tr ax cj : Theory) :
    (coreProblem name tr ax cj).conjectures.map (·.formula) = cj := by
  unfold coreProblem
  rw [addTheory_conj_conj, addTheory_conj_axiom, addTheory_conj_axiom]
  simp [Problem.conjectures]

/-- **Core of C03.** `J` merges the HT interpretation `M = (H,T)` (h-copies from `H`, t-copies
    from `T`). For either decomposition, some problem of the direction `left ⊢ right` is refuted
    by `J` iff the transition axioms hold in `J`, `(H,T)` satisfies every formula of `L` at world
    `here` and fails some formula of `R`. -/
theorem gamma_direction_refutes {J : Interp} {M : HTI} (hm : C05.Merges J M) (ρ : Asg)
    (name : String) (tr L R : Theory) (d : Decomposition) :
    (∃ P ∈ (coreProblem name tr (gammaTheory L) (gammaTheory R)).decompose d, Refutes J ρ P) ↔
      (∀ F ∈ tr, sat J F ρ) ∧ (∀ F ∈ L, ht M F .here ρ) ∧ ∃ G ∈ R, ¬ ht M G .here ρ := by
  obtain ⟨h1, h2⟩ := direction0_role_forall name tr (gammaTheory L) (gammaTheory R) "left_" "right_"
    (fun F => sat J F ρ)
  have e : coreProblem name tr (gammaTheory L) (gammaTheory R) =
      directionProblem0 name tr (gammaTheory L) (gammaTheory R) "left_" "right_" := rfl
  rw [e, decompose_refutes, refutes_iff, h1, h2, allTrue_gamma hm, allTrue_gamma hm, and_assoc]
  simp only [Classical.not_forall, exists_prop]

/-- **C03, both representations and every flag combination.** Some emitted problem is refuted
    by the classical interpretation that merges `(H,T)` iff the h-extents are included in the
    t-extents (on the programs' predicates) and `(H,T)` satisfies one program but not the other, in a
    direction the task asks for. Hypotheses: the pass bound sufficed (`strongProblems … = some ps`),
    `globalsPanic` on neither program (always true: it is constantly `false`), `rename_conflicting_symbols`
    is the identity on the assembled problems (`NoSymbolConflict`; otherwise the statement is about renamed
    constants), and - only when simplification is on or the mu representation is used - `H ⊆ T` everywhere
    (the HT portfolio and the natural translation are HT-equivalences for such interpretations; for `H ⊄ T`
    on a program predicate the left side is false by the transition axioms alone, see
    `strong_refutes_needs_sub`). -/
theorem strong_refutes (t : StrongTask) (fuel : Nat) (ps : List Problem)
    (h : strongProblems t fuel = some ps)
    (hpl : globalsPanic t.left = false) (hpr : globalsPanic t.right = false)
    (hnc : NoSymbolConflict t fuel)
    {J : Interp} {M : HTI} (hm : C05.Merges J M)
    (hsub : (t.simplify = true ∨ t.rep = .mu) → M.Sub) (ρ : Asg) :
    (∃ P ∈ ps, Refutes J ρ P) ↔
      SubOn M (ext t.left.preds t.right.preds) ∧
      (((t.direction = .universal ∨ t.direction = .forward) ∧
          progSat M .here t.left ∧ ¬ progSat M .here t.right) ∨
       ((t.direction = .universal ∨ t.direction = .backward) ∧
          progSat M .here t.right ∧ ¬ progSat M .here t.left)) :=
  Anthem.strong_refutes t fuel ps h hpl hpr hnc hm hsub ρ

/-- Without any hypothesis on `(H,T)`, representation or flags: an interpretation whose h-extents
    are not included in its t-extents (on a predicate of the programs) refutes no emitted problem. -/
theorem strong_refutes_needs_sub (t : StrongTask) (fuel : Nat) (ps : List Problem)
    (h : strongProblems t fuel = some ps) (hnc : NoSymbolConflict t fuel)
    {J : Interp} {M : HTI} (hm : C05.Merges J M) (ρ : Asg)
    (hns : ¬ SubOn M (ext t.left.preds t.right.preds)) : ¬ ∃ P ∈ ps, Refutes J ρ P :=
  fun href => hns (strong_refuted_subOn t fuel ps h hnc hm ρ href)

/-- Hence: all emitted problems of a universal task are free of standard countermodels exactly when
    the two programs have the same here-and-there models, i.e. are strongly equivalent. -/
theorem strongly_equivalent_iff (t : StrongTask)
    (hdir : t.direction = .universal) (fuel : Nat) (ps : List Problem)
    (h : strongProblems t fuel = some ps)
    (hpl : globalsPanic t.left = false) (hpr : globalsPanic t.right = false)
    (hnc : NoSymbolConflict t fuel) :
    (∀ (J : Interp) (M : HTI), C05.Merges J M → M.Sub → ∀ ρ : Asg, ¬ ∃ P ∈ ps, Refutes J ρ P) ↔
      (∀ M : HTI, M.Sub → (progSat M .here t.left ↔ progSat M .here t.right)) := by
  constructor
  · intro hall M hs
    obtain ⟨J, hm⟩ := C05.merge_exists M
    have hno := hall J M hm hs (fun _ => .inf)
    rw [strong_refutes t fuel ps h hpl hpr hnc hm (fun _ => hs)] at hno
    have hsubon : SubOn M (ext t.left.preds t.right.preds) := fun p _ ds _ hh => hs _ _ hh
    constructor
    · intro hL
      exact Classical.byContradiction fun hR => hno ⟨hsubon, Or.inl ⟨Or.inl hdir, hL, hR⟩⟩
    · intro hR
      exact Classical.byContradiction fun hL => hno ⟨hsubon, Or.inr ⟨Or.inl hdir, hR, hL⟩⟩
  · intro hall J M hm hs ρ href
    rw [strong_refutes t fuel ps h hpl hpr hnc hm (fun _ => hs)] at href
    obtain ⟨_, ⟨_, hL, hR⟩ | ⟨_, hR, hL⟩⟩ := href
    · exact hR ((hall M hs).mp hL)
    · exact hL ((hall M hs).mpr hR)

/-- **C03 without the side condition** (`rename_conflicting_symbols` renames the clashing
    *propositional predicate* and leaves symbolic constants - and hence their order - alone, fix 611037e).
    For the two processed theories of the task: some emitted
    problem is refuted by the classical interpretation `J` iff, in a requested direction, the
    here-and-there interpretation merged by `J` *read through the renaming of that direction's problem*
    (`propReading`: a renamed h- or t-copy of a propositional predicate is read at its new name) has
    `H ⊆ T` on the programs' predicates and satisfies one program but not the other. -/
theorem strong_refutes_with_renaming (t : StrongTask) (fuel : Nat) (ps : List Problem)
    (h : strongProblems t fuel = some ps)
    (hpl : globalsPanic t.left = false) (hpr : globalsPanic t.right = false) :
    ∃ l r, processTheory t fuel t.left = some l ∧ processTheory t fuel t.right = some r ∧
      ∀ (J : Interp) (MF MB : HTI),
        C05.Merges ⟨propReading (directionProblem0 "forward" (transitionAxioms t) l r "left_" "right_").propRenaming
          J.pred, J.fc⟩ MF →
        C05.Merges ⟨propReading (directionProblem0 "backward" (transitionAxioms t) r l "right_" "left_").propRenaming
          J.pred, J.fc⟩ MB →
        ((t.simplify = true ∨ t.rep = .mu) → MF.Sub ∧ MB.Sub) → ∀ ρ : Asg,
        ((∃ P ∈ ps, Refutes J ρ P) ↔
          ((t.direction = .universal ∨ t.direction = .forward) ∧
              SubOn MF (ext t.left.preds t.right.preds) ∧
              progSat MF .here t.left ∧ ¬ progSat MF .here t.right) ∨
          ((t.direction = .universal ∨ t.direction = .backward) ∧
              SubOn MB (ext t.left.preds t.right.preds) ∧
              progSat MB .here t.right ∧ ¬ progSat MB .here t.left)) :=
  strong_refutes_renamed t fuel ps h hpl hpr

/-- **"Hence all problems are theorems exactly when the programs are strongly equivalent" - the soundness
    half with no side condition**: for a universal task (either representation, every flag combination),
    if NO emitted problem has a countermodel, then every here-and-there interpretation with `H ⊆ T`
    satisfies the left program iff it satisfies the right one. (`rename_conflicting_symbols` needs no
    hypothesis: `reading_surjective`.) -/
theorem strong_equivalence_sound_no_side_condition (t : StrongTask) (hdir : t.direction = .universal) (fuel : Nat)
    (ps : List Problem) (h : strongProblems t fuel = some ps)
    (hvalid : ∀ P ∈ ps, ∀ J ρ, ¬ Refutes J ρ P) :
    ∀ M : HTI, M.Sub → (progSat M .here t.left ↔ progSat M .here t.right) :=
  strong_valid_implies_equivalent t hdir fuel ps h hvalid

/-- **the completeness half with renaming**: if the programs have the same here-and-there models, no
    interpretation whose readings (through the renamings of the two directions) merge interpretations with
    `H ⊆ T` refutes an emitted problem. -/
theorem strong_equivalence_complete_with_renaming (t : StrongTask) (fuel : Nat) (ps : List Problem)
    (h : strongProblems t fuel = some ps)
    (hequiv : ∀ M : HTI, M.Sub → (progSat M .here t.left ↔ progSat M .here t.right)) :
    ∃ l r, processTheory t fuel t.left = some l ∧ processTheory t fuel t.right = some r ∧
      ∀ (J : Interp) (MF MB : HTI),
        C05.Merges ⟨propReading (directionProblem0 "forward" (transitionAxioms t) l r "left_" "right_").propRenaming
          J.pred, J.fc⟩ MF →
        C05.Merges ⟨propReading (directionProblem0 "backward" (transitionAxioms t) r l "right_" "left_").propRenaming
          J.pred, J.fc⟩ MB →
        MF.Sub → MB.Sub → ∀ ρ : Asg, ¬ ∃ P ∈ ps, Refutes J ρ P := by
  obtain ⟨l, r, hl, hr, hmain⟩ := strong_refutes_renamed t fuel ps h rfl rfl
  refine ⟨l, r, hl, hr, fun J MF MB hmF hmB hsF hsB ρ href => ?_⟩
  rcases (hmain J MF MB hmF hmB (fun _ => ⟨hsF, hsB⟩) ρ).mp href with ⟨_, _, hL, hR⟩ | ⟨_, _, hR, hL⟩
  · exact hR ((hequiv MF hsF).mp hL)
  · exact hL ((hequiv MB hsB).mpr hR)

/-- the names given to clashing propositional predicates are free (no symbolic constant, predicate symbol
    or placeholder of the problem has them) and pairwise different, so reading an interpretation through
    the renaming loses nothing -/
theorem clashing_predicates_get_free_names (p : Problem) :
    (∀ x ∈ p.propRenaming, x.2 ∉ p.occupiedNames) ∧ p.propRenaming.Pairwise fun x y => x.2 ≠ y.2 :=
  propRenaming_fresh p

/-- the problems of a task, as `(name, symbolic constants, predicate names)` -/
def problemNames (t : StrongTask) : Option (List (String × List String × List String)) :=
  (strongProblems t 8).map fun ps => ps.map fun p => (p.name, p.symbols, p.preds.map (·.symbol))

/-- **Symbol order.** For `p. q :- tp_ < tp.` against `p. q.` the constant `tp` collides
    with the t-copy of `p/0`. The predicate is renamed (`tp_p`) and the constants `tp_`, `tp` keep their
    names (fix 611037e). Renaming the constant to `tp__s` would change the order (`tp < tp_` whereas
    `tp_ < tp__s`): the emitted problems would speak about another order than the programs, and every
    problem would be valid although the programs are not strongly equivalent. -/
theorem rename_keeps_symbols_witness :
    problemNames ⟨[⟨.basic ⟨"p", []⟩, []⟩, ⟨.basic ⟨"q", []⟩, [.cmp .lt (.pre (.sym "tp_")) (.pre (.sym "tp"))]⟩],
      [⟨.basic ⟨"p", []⟩, []⟩, ⟨.basic ⟨"q", []⟩, []⟩], .sequential, .forward, .tauStar, false, false⟩ =
      some [("forward_0", ["tp_", "tp"], ["hp", "tp_p", "hq", "tq"]),
            ("forward_1", ["tp_", "tp"], ["hp", "tp_p", "hq", "tq"])] := by decide +kernel

/-- Non-vacuity of the hypotheses: a task with a symbolic constant and variables satisfies
    `NoSymbolConflict` and the pass bound. -/
example : NoSymbolConflict ⟨[⟨.basic ⟨"p", [.pre (.sym "a")]⟩, []⟩],
    [⟨.basic ⟨"p", [.var "X"]⟩, [.lit ⟨.pos, ⟨"q", [.var "X"]⟩⟩]⟩],
    .sequential, .universal, .tauStar, false, false⟩ 8 := by
  intro l r hl hr
  injection hl with hl; injection hr with hr
  subst hl; subst hr
  decide +kernel

/-- Non-vacuity: the model really emits a forward and a backward family for a universal task. -/
example : ((strongProblems ⟨[⟨.basic ⟨"p", []⟩, []⟩], [⟨.basic ⟨"p", []⟩, [.lit ⟨.pos, ⟨"q", []⟩⟩]⟩],
    .sequential, .universal, .tauStar, false, false⟩ 8).map (·.map (·.name))) =
    some ["forward_0", "backward_0"] := by decide +kernel

end Anthem.C03
