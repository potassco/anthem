/-
  C04 — completion of a tight program's theory has exactly its stable models.
  Proved at full strength (`completion_tight : CompletionTight`). Layers: (1) the refusal
  half (`completion_refuses`: whatever `completion` accepts is completable in the sense of the
  independent specification `Completable`, predicates never get two heads); (2) Fages' theorem at
  the level of the reference semantics (`tight_stable_iff_supported`, with input predicates;
  tightness is exact by C11) and its tau* reading; (3) the formula level (Proofs/CompletionSem.lean):
  tau* formulas are closed and split into constraints and partial definitions with pairwise distinct
  variable heads, the grouping by head atom, empty definitions for predicates without rules, no head
  mismatch, inputs left open, and the meaning of each completed definition
  `forall V (p(V) <-> exists U body_1 or ...)` in terms of the reference semantics.
-/
import AnthemModel.Model.Completion
import AnthemModel.Model.Analyze
import AnthemModel.Model.TauStar
import AnthemModel.Semantics.Asp
import AnthemModel.Proofs.Fages
import AnthemModel.Proofs.CompletionSem
namespace Anthem.C04
open Asp

def CompletionTight : Prop :=
  ∀ (P : Program) (ins : List Pred), isTight P = true → globalsPanic P = false →
    (∀ q ∈ ins, q ∉ P.headPreds) →
    ∃ Γ, completion (tauStar P) ins = some Γ ∧
      ∀ (T : PredI) (fc : FcI) (ρ : Asg),
        (∀ q a, T q a → (⟨q, a.length⟩ : Pred) ∈ ext P.preds ins) →
        ((∀ F ∈ Γ, sat ⟨T, fc⟩ F ρ) ↔ Stable P ins T fc)

/-- **C04, reference level** (Fages): for a program that `is_tight` accepts, and any input
    predicates, the stable models are exactly the classical models in which every true atom of a
    non-input predicate is produced by a rule with a true body. The direction "stable ⇒ supported"
    holds for every program; tightness (no predicate depends positively on itself - `tight_iff_acyclic`)
    is what makes "supported ⇒ stable" true. -/
theorem tight_stable_iff_supported (P : Program) (htight : isTight P = true) (ins : List Pred)
    (T : PredI) (fc : FcI) :
    Stable P ins T fc ↔ progSat ⟨T, T, fc⟩ .there P ∧ Supported P ins T fc :=
  Anthem.tight_stable_iff_supported P htight ins T fc

/-- … read through the tau* theory (C01): the equilibrium models of `tau_star(Π)` with inputs are
    the supported models. -/
theorem tight_equilibrium_iff_supported (P : Program) (htight : isTight P = true)
    (hp : globalsPanic P = false) (ins : List Pred) (T : PredI) (fc : FcI) (ρ : Asg) :
    ((∀ F ∈ tauStar P, ht ⟨T, T, fc⟩ F .there ρ) ∧
        ∀ H : PredI, (∀ q a, H q a → T q a) →
          (∀ q a, (⟨q, a.length⟩ : Pred) ∈ ins → (H q a ↔ T q a)) →
          (∀ F ∈ tauStar P, ht ⟨H, T, fc⟩ F .here ρ) → ∀ q a, T q a → H q a) ↔
      (progSat ⟨T, T, fc⟩ .there P ∧ Supported P ins T fc) := by
  rw [← Anthem.tight_stable_iff_supported P htight ins T fc]
  unfold Stable
  rw [tauStar_correct P hp ⟨T, T, fc⟩ .there ρ]
  refine and_congr_right fun _ => forall_congr' fun H => imp_congr_right fun _ =>
    imp_congr_right fun _ => ?_
  rw [tauStar_correct P hp ⟨H, T, fc⟩ .here ρ]

/-- Tightness matters: `p :- p.` has the supported model `{p}` which is not stable. -/
theorem non_tight_counterexample :
    let P : Program := [⟨.basic ⟨"p", []⟩, [.lit ⟨.pos, ⟨"p", []⟩⟩]⟩]
    let T : PredI := fun q ds => q = "p" ∧ ds = []
    isTight P = false ∧ (progSat ⟨T, T, fun _ _ => .inf⟩ .there P ∧ Supported P [] T (fun _ _ => .inf)) ∧
      ¬ Stable P [] T (fun _ _ => .inf) := by
  intro P T
  refine ⟨by decide, ⟨?_, ?_⟩, ?_⟩
  · intro r hr σ
    simp only [P, List.mem_singleton] at hr
    subst hr
    refine ⟨fun _ ds hv => ?_, fun _ ds hv => ?_⟩ <;>
      (cases ds <;> simp [valsList] at hv ⊢ <;> exact ⟨rfl, rfl⟩)
  · intro q ds hT _
    obtain ⟨rfl, rfl⟩ := hT
    refine ⟨_, List.mem_singleton.mpr rfl, ⟨"p", []⟩, Or.inl rfl, rfl, fun _ => .inf, trivial, ?_⟩
    intro f hf
    simp only [List.mem_singleton] at hf
    subst hf
    exact ⟨[], trivial, rfl, rfl⟩
  · intro hst
    have := hst.2 (fun _ _ => False) (fun _ _ h => h.elim) (fun _ _ h => by cases h) ?_ "p" [] ⟨rfl, rfl⟩
    · exact this
    · intro r hr σ
      simp only [P, List.mem_singleton] at hr
      subst hr
      refine ⟨fun hb => ?_, fun _ ds hv => ?_⟩
      · have := hb _ List.mem_cons_self
        obtain ⟨ds, _, h⟩ := this
        exact h.elim
      · cases ds <;> simp [valsList] at hv ⊢ <;> exact ⟨rfl, rfl⟩

/-- **C04.** For every program that `is_tight` accepts (the hypothesis `globalsPanic P = false` of
    `CompletionTight` is always true: `globalsPanic` is constantly `false`) and every set of input
    predicates that do not occur in rule heads: `completion`
    accepts the tau* theory, and a classical interpretation over the program's signature satisfies
    all completed definitions and constraints iff it is a stable model of the program with its own
    input facts. -/
theorem completion_tight : CompletionTight :=
  fun P ins htight hp hins => Anthem.completion_tight P ins htight hp hins

/-- Independent specification of a completable formula: closed; after at most one universal
    quantifier an implication (either direction) whose consequent is `#false` or an atom whose
    arguments are pairwise distinct variables. -/
def CompletableBody : Formula → Prop
  | .bin .imp _ g | .bin .rimp g _ =>
    g = .fls ∨ ∃ a : Atom, g = .atomic (.atom a) ∧ (∀ t ∈ a.args, t.asVar?.isSome) ∧
      (a.args.map GTerm.asVar?).Nodup
  | _ => False

def Completable (f : Formula) : Prop :=
  f.fv = [] ∧ (match f with
    | .quant .all _ g => CompletableBody g
    | g => CompletableBody g)

theorem splitImplication_some (f : Formula) (c : Component) (h : splitImplication f = some c) :
    CompletableBody f := by
  unfold splitImplication at h
  have go : ∀ (f' g : Formula),
      (match g with
        | .atomic .fls => some (Component.constraint f)
        | .atomic (.atom a) =>
          let vs := a.args.map GTerm.asVar?
          if vs.contains none || !allUnique vs then none else some (.partialDef f' a)
        | _ => none) = some c →
      (g = .fls ∨ ∃ a : Atom, g = .atomic (.atom a) ∧ (∀ t ∈ a.args, t.asVar?.isSome) ∧
        (a.args.map GTerm.asVar?).Nodup) := by
    intro f' g hg
    split at hg
    · exact Or.inl rfl
    · rename_i a
      right
      refine ⟨a, rfl, ?_⟩
      simp only at hg
      split at hg
      · cases hg
      · rename_i hcond
        simp only [Bool.or_eq_true, Bool.not_eq_true', not_or, Bool.not_eq_false] at hcond
        refine ⟨?_, (allUnique_iff_nodup _).mp hcond.2⟩
        intro t ht
        cases hv : t.asVar? with
        | some _ => rfl
        | none =>
          exfalso
          apply hcond.1
          simp only [List.contains_iff_mem, List.mem_map]
          exact ⟨t, ht, hv⟩
    · cases hg
  split at h
  · exact go _ _ h
  · exact go _ _ h
  · cases h

theorem split_some (f : Formula) (c : Component) (h : split f = some c) : Completable f := by
  unfold split at h
  split at h
  · cases h
  · rename_i hfv
    have hclosed : f.fv = [] := by
      cases hf : f.fv with
      | nil => rfl
      | cons a l => simp [hf] at hfv
    refine ⟨hclosed, ?_⟩
    cases f with
    | quant q vs g' =>
      cases q with
      | all => exact splitImplication_some _ c h
      | ex => exact splitImplication_some _ c h
    | atomic _ => exact splitImplication_some _ c h
    | not _ => exact splitImplication_some _ c h
    | bin _ _ _ => exact splitImplication_some _ c h

theorem components_some (t : Theory) :
    ∀ (acc r : Definitions × List Formula),
      t.foldlM (fun (acc : Definitions × List Formula) formula =>
        match split formula with
        | none => none
        | some (.constraint c) => some (acc.1, acc.2 ++ [c])
        | some (.partialDef f a) => some (acc.1.push a f, acc.2)) acc = some r →
      ∀ f ∈ t, Completable f := by
  induction t with
  | nil => intro _ _ _ f hf; cases hf
  | cons g gs ih =>
    intro acc r h f hf
    simp only [List.foldlM_cons] at h
    cases hs : split g with
    | none => simp [hs] at h
    | some c =>
      rcases List.mem_cons.mp hf with rfl | hf'
      · exact split_some _ c hs
      · cases c with
        | constraint c' => simp only [hs] at h; exact ih _ r h f hf'
        | partialDef f' a => simp only [hs] at h; exact ih _ r h f hf'

/-- **Refusal.** Whatever `completion` accepts is completable: a theory containing a formula with
    free variables, a non-implication, or a head with non-variable or repeated arguments is
    refused rather than silently mis-built. -/
theorem completion_refuses (t : Theory) (ins : List Pred) (Γ : Theory)
    (h : completion t ins = some Γ) : ∀ f ∈ t, Completable f := by
  unfold completion at h
  cases hc : components t with
  | none => simp [hc] at h
  | some r =>
    unfold components at hc
    exact components_some t _ r hc

/-- Non-vacuity: a completable and a non-completable formula. -/
example : (split (.quant .all [⟨"X", .general⟩]
    (.bin .imp (.atomic (.atom ⟨"q", [.var "X"]⟩)) (.atomic (.atom ⟨"p", [.var "X"]⟩))))).isSome = true := by
  decide +kernel
example : completion [.bin .imp .tru (.atomic (.atom ⟨"p", [.int (.num 1)]⟩))] [] = none := by decide +kernel
example : completion [.quant .all [⟨"X", .general⟩]
    (.bin .imp .tru (.atomic (.atom ⟨"p", [.var "X", .var "X"]⟩)))] [] = none := by decide +kernel

end Anthem.C04
