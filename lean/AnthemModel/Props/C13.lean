/-
  C13 — a proof outline cannot make an unjustified claim available as an axiom.
  Proved: soundness of the induction scheme built by `inductive_lemma` (for every formula,
  including an induction variable that is also bound inside F and a negative start value);
  what an accepted definition looks like; the sequencing of outline problems (lemma i's
  obligations use only the axioms of the direction and the consequences of lemmas before i).
  The property itself: `accepted_outline_lemmas_justified` (every lemma of an accepted outline is
  implied by its obligations), `outline_sound` and `outline_sound_no_side_condition` (no lemma
  becomes an axiom unless it is true wherever the axioms of the direction are and no outline problem
  is refuted), `definition_conservative` and `definition_entry_is_fresh` (an accepted definition
  only introduces a predicate that occurs nowhere before it).
-/
import AnthemModel.Model.External
import AnthemModel.Proofs.SubstBasic
import AnthemModel.Proofs.Decompose
import AnthemModel.Proofs.DefinitionSem
import AnthemModel.Proofs.InductionSound
import AnthemModel.Proofs.OutlineSound
import AnthemModel.Proofs.DefinitionAccepted
import AnthemModel.Proofs.ExternalValid
namespace Anthem.C13

abbrev WS := Outline.WS

/-- **Soundness of the induction scheme.** `base` and `step` are exactly the two obligations
    `inductive_lemma` builds for `forall N$i … (N$i >= n -> F)`. If both are true in `J`, then `F`
    holds for every integer `z ≥ n` (under every well-sorted assignment of the other variables),
    i.e. the lemma that is later used as an axiom is true. -/
theorem induction_sound (J : Interp) (F : Formula) (v : String) (n : Int) (ρ₀ : Asg)
    (hbase : sat J (F.subst ⟨v, .integer⟩ (.int (.num n))).universalClosure ρ₀)
    (hstep : sat J (Formula.bin .imp
        (.bin .and (.atomic (.cmp (.int (.var v)) [⟨.ge, .int (.num n)⟩])) F)
        (F.subst ⟨v, .integer⟩ (.int (.bin .add (.var v) (.num 1))))).universalClosure ρ₀) :
    ∀ (τ : Asg), WS τ → ∀ z : Int, n ≤ z → sat J F (τ.set ⟨v, .integer⟩ (.num z)) :=
  Outline.induction_sound J F v n ρ₀ hbase hstep

/-- What `inductive_lemma` returns is exactly the pair of obligations used above. -/
theorem inductiveLemma_shape (vars : List Var) (v : String) (n : Int) (rhs : Formula)
    (hv : sameSet (vars.foldl ins []) rhs.fv = true) :
    inductiveLemma (.quant .all vars (.bin .imp (.atomic (.cmp (.int (.var v)) [⟨.ge, .int (.num n)⟩])) rhs)) =
      .ok ((rhs.subst ⟨v, .integer⟩ (.int (.num n))).universalClosure,
           (Formula.bin .imp (.bin .and (.atomic (.cmp (.int (.var v)) [⟨.ge, .int (.num n)⟩])) rhs)
             (rhs.subst ⟨v, .integer⟩ (.int (.bin .add (.var v) (.num 1))))).universalClosure) := by
  simp [inductiveLemma, hv]

/-- An accepted definition: a universally closed equivalence whose left side is an atom whose
    arguments are pairwise distinct variables - the same set as the (pairwise distinct) quantified
    variables -, defining a predicate that is not taken, with a right side that has no other free
    variables and mentions only taken predicates. (A head that repeats a variable,
    `forall X (d(X,X) <-> in(X))`, is refused: fix c8750dd.) -/
theorem definition_accepted_implies (f : Formula) (taken : List Pred) (p : Pred)
    (h : checkDefinition f taken = .ok p) :
    ∃ (vars : List Var) (a : Atom) (rhs : Formula) (tv : List Var),
      f = .quant .all vars (.bin .iff (.atomic (.atom a)) rhs) ∧ p = a.predicate ∧ p ∉ taken ∧
      (∀ x ∈ rhs.fv, x ∈ vars.foldl ins []) ∧ (∀ q ∈ rhs.preds, q ∈ taken) ∧
      ¬ (vars.foldl ins []).length < vars.length ∧
      a.args.mapM GTerm.asVar? = some tv ∧ sameSet (vars.foldl ins []) (tv.foldl ins []) = true ∧
      tv.Nodup := Outline.definition_accepted_implies f taken p h

/-- **Accepted definitions are conservative**: whatever the interpretation, changing it on the
    defined predicate alone (same symbol and arity; everything else untouched) makes the definition
    true under every assignment. So an accepted definition never makes a claim about the task's
    predicates available. -/
theorem definition_conservative (f : Formula) (taken : List Pred) (p : Pred)
    (h : checkDefinition f taken = .ok p) (I : Interp) :
    ∃ P' : PredI,
      (∀ q ds, ¬ (q = p.symbol ∧ ds.length = p.arity) → (P' q ds ↔ I.pred q ds)) ∧
      ∀ ρ, sat ⟨P', I.fc⟩ f ρ := Outline.definition_conservative f taken p h I

/-- A definition whose head repeats a variable is refused (`forall X (d(X,X) <-> in(X))`, fix c8750dd;
    replayed on the implementation as corpus/external.txt:repeated_head_argument). -/
theorem repeated_head_argument_refused :
    (match checkDefinition (.quant .all [⟨"X", .general⟩]
      (.bin .iff (.atomic (.atom ⟨"d", [.var "X", .var "X"]⟩)) (.atomic (.atom ⟨"in", [.var "X"]⟩))))
      [⟨"in", 1⟩] with
    | .err .definedPredicateVariableListMismatch => true | _ => false) = true := by decide +kernel

/-- **Sequencing.** The problems emitted for lemma `k` of an outline use as axioms exactly the
    axioms of the direction followed by the consequences of the lemmas before `k`. -/
theorem outline_sequencing (dirName : String) (axioms0 : List AnnF) (lemmas : List GeneralLemma) :
    outlineProblems dirName axioms0 lemmas =
      (indexFrom 0 lemmas).flatMap fun (k, l) =>
        (indexFrom 0 l.conjectures).map fun (j, c) =>
          mkProblem (dirName ++ "_outline_" ++ toString k ++ "_" ++ toString j)
            [axioms0 ++ (lemmas.take k).flatMap (·.consequences), [c]] :=
  Outline.outline_sequencing dirName axioms0 lemmas

/-- **Every lemma of an accepted outline is justified by its obligations**: what a lemma (plain or
    inductive) contributes as an axiom is true, under the same interpretation and assignment,
    whenever its obligations are; obligations carry the role conjecture, contributions the role axiom. -/
theorem accepted_outline_lemmas_justified (spec : Specification) (taken : List Pred) (m : PlaceholderMap)
    (po : ProofOutline) (h : proofOutlineFrom spec taken m = .ok po) :
    (∀ l ∈ po.forwardLemmas, Outline.GLGood l) ∧ (∀ l ∈ po.backwardLemmas, Outline.GLGood l) :=
  Outline.proofOutlineFrom_good spec taken m po h

/-- **Soundness of an outline** (the statement of the property): with the lemmas of an accepted
    outline, an interpretation that satisfies the axioms of the direction (premises and accepted
    definitions) and refutes none of the emitted outline problems satisfies every lemma that the
    outline makes available as an axiom - so no unjustified claim becomes an axiom. `hnc`: the
    symbol-renaming step is the identity on the outline problems, so that a problem can be read as
    its parts; `outline_sound_no_side_condition` does without it. -/
theorem outline_sound (dirName : String) (axioms0 : List AnnF) (lemmas : List GeneralLemma)
    (hgood : ∀ l ∈ lemmas, Outline.GLGood l)
    (hnc : Outline.NoConflictOutline dirName axioms0 lemmas) (J : Interp) (ρ : Asg)
    (hnot : ∀ P ∈ outlineProblems dirName axioms0 lemmas, ¬ Refutes J ρ P)
    (hax : ∀ a ∈ axioms0, sat J a.formula ρ) :
    ∀ l ∈ lemmas, ∀ c ∈ l.consequences, sat J c.formula ρ :=
  Outline.outline_sound dirName axioms0 lemmas (fun l hl => (hgood l hl).1) (fun l hl => (hgood l hl).2.1) hnc J ρ hnot hax

/-- **Soundness of an outline with no side condition** (`rename_conflicting_symbols`
    renames propositional predicates to free names, fix 611037e, which does not matter for validity): if NO outline
    problem has a countermodel, every interpretation that satisfies the axioms of the direction satisfies
    every lemma that the outline makes available as an axiom. -/
theorem outline_sound_no_side_condition (dirName : String) (axioms0 : List AnnF) (lemmas : List GeneralLemma)
    (hgood : ∀ l ∈ lemmas, Outline.GLGood l)
    (hvalid : ∀ P ∈ outlineProblems dirName axioms0 lemmas, ∀ J ρ, ¬ Refutes J ρ P)
    (J : Interp) (ρ : Asg) (hax : ∀ a ∈ axioms0, sat J a.formula ρ) :
    ∀ l ∈ lemmas, ∀ c ∈ l.consequences, sat J c.formula ρ :=
  Outline.outline_sound_valid dirName axioms0 lemmas (fun l hl => (hgood l hl).1) (fun l hl => (hgood l hl).2.1)
    hvalid J ρ hax

/-- the two obligations of an inductive lemma imply the lemma itself (whatever its shape) -/
theorem inductive_lemma_justified (f base step : Formula) (h : inductiveLemma f = .ok (base, step)) (J : Interp) (ρ : Asg)
    (hb : sat J base ρ) (hs : sat J step ρ) : sat J f ρ :=
  Outline.inductiveLemma_sound f base step h J ρ hb hs

/-- **A definition introduces a predicate that occurs nowhere before it** (nor in an
    earlier lemma: fix d771171): a definition entry is accepted only if `checkDefinition` accepts it
    against the taken predicates (the task's predicates and the earlier definitions) and its
    predicate is not among the predicates `lem` of the lemmas seen so far; it then becomes taken. -/
theorem definition_entry_is_fresh (m : PlaceholderMap) (po : ProofOutline) (taken lem : List Pred) (a : SAnn)
    (po' : ProofOutline) (taken' lem' : List Pred) (hrole : a.role = .definition)
    (h : outlineStep m (.ok (po, taken, lem)) a = .ok (po', taken', lem')) :
    ∃ p, checkDefinition (a.replacePlaceholders m).formula taken = .ok p ∧ p ∉ taken ∧ p ∉ lem ∧
      taken' = ins taken p ∧ lem' = lem := by
  rcases Outline.outlineStep_cases m po taken lem a with ⟨e, he⟩ | ⟨_, _, _, hr, _⟩ | ⟨p, _, _, hdef, hnl, hok, _⟩
  · rw [he] at h; cases h
  · rw [hrole] at hr; rcases hr with hr | hr <;> cases hr
  · rw [hok] at h; cases h
    obtain ⟨_, _, _, _, _, _, hnt, _⟩ := definition_accepted_implies _ taken p hdef
    exact ⟨p, hdef, hnt, hnl, rfl, rfl⟩

/-- … and every lemma entry records its predicates, so that no later definition can define them. -/
theorem lemma_entry_records_predicates (m : PlaceholderMap) (po : ProofOutline) (taken lem : List Pred) (a : SAnn)
    (po' : ProofOutline) (taken' lem' : List Pred) (hrole : a.role = .lemma ∨ a.role = .inductiveLemma)
    (h : outlineStep m (.ok (po, taken, lem)) a = .ok (po', taken', lem')) :
    taken' = taken ∧ lem' = ext lem (a.replacePlaceholders m).formula.preds := by
  rcases Outline.outlineStep_cases m po taken lem a with ⟨e, he⟩ | ⟨_, _, _, _, _, hok, _⟩ | ⟨_, _, hr, _⟩
  · rw [he] at h; cases h
  · rw [hok] at h; cases h; exact ⟨rfl, rfl⟩
  · rw [hr] at hrole; rcases hrole with hr | hr <;> cases hr

/-- a lemma that uses the predicate a later definition introduces is refused (fix d771171):
    `lemma: d(1). definition: forall X (d(X) <-> X = 1).` -/
theorem lemma_before_definition_refused :
    (match proofOutlineFrom
      [⟨.lemma, .universal, "", .atomic (.atom ⟨"d", [.int (.num 1)]⟩)⟩,
       ⟨.definition, .universal, "", .quant .all [⟨"X", .general⟩]
          (.bin .iff (.atomic (.atom ⟨"d", [.var "X"]⟩)) (.atomic (.cmp (.var "X") [⟨.eq, .int (.num 1)⟩])))⟩]
      [⟨"in", 1⟩] [] with
    | .err .takenPredicate => true | _ => false) = true := by decide +kernel

/-- Non-vacuity: an inductive lemma whose variable is also bound inside `F` and whose start value
    is negative is accepted and yields two obligations. -/
example : (match inductiveLemma (.quant .all [⟨"N", .integer⟩]
    (.bin .imp (.atomic (.cmp (.int (.var "N")) [⟨.ge, .int (.num (-2))⟩]))
      (.bin .and (.atomic (.atom ⟨"p", [.int (.var "N")]⟩))
        (.quant .ex [⟨"N", .integer⟩] (.atomic (.atom ⟨"q", [.int (.var "N")]⟩)))))) with
    | .ok _ => true | _ => false) = true := by decide +kernel

end Anthem.C13
