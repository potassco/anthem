/-
  C14 — printing a parsed program and parsing it again yields the same program.

  The printer (Model/Print) and the parser (Model/AspParse: the PEG of grammar.pest read with
  pest's rules, the tree builder of pest.rs, pest's Pratt parser) are both modelled and tied to
  the Rust code by exact correspondence (suites `print`, `asp_parse`).

  Proved here, for every program whose names have the lexical shape of the grammar and among
  which no symbolic constant or predicate symbol is `not` (`Program.WF`):
    `roundtrip`            parsing the printed text gives the program back,
    `print_parse_print`    and printing that again gives the identical text.
  The proof goes through the character level (`Proofs/AspLex` … `AspProgramRT`: every printed
  token is lexed back, white space and the look-aheads `!integer`, `!negation`, `!"."` included) and
  the pair level (`Proofs/PrattInv`: pest's Pratt algorithm inverts the printer's
  parenthesisation, for all operator nestings, unary minus on numerals vs negative numerals,
  intervals on either side).
  `accepted_text_roundtrip` states it for every accepted text, without any hypothesis: the tree of
  an accepted text always has names of the grammar's lexical shape other than `not`
  (`accepted_text_wf`).
  The lexer refuses `not` as a name (`not_is_no_name`; anthem's `fix:` a1dc9d0). Before that fix a
  symbol or predicate named `not` was accepted when no white space followed it (`p(not+1).`,
  `not :- q.`), printed with a following space and then rejected.
-/
import AnthemModel.Model.Print
import AnthemModel.Proofs.AspProgramRT
import AnthemModel.Proofs.AspImage
import AnthemModel.Proofs.AspImageWF
namespace Anthem.C14
open Asp

/-- **Round trip.** For every well-formed program (every operator nesting and associativity,
    unary minus on numerals, negative numerals, nested intervals, all three head kinds, empty
    bodies, constraints): the printed text is accepted and parses to the identical tree. -/
theorem roundtrip (p : Program) (h : p.WF) : parseProgram (printProgram p) = some p :=
  parseProgram_printProgram p h

/-- … and printing the re-parsed tree gives the identical text. -/
theorem print_parse_print (p : Program) (h : p.WF) :
    (parseProgram (printProgram p)).map printProgram = some (printProgram p) := by
  rw [roundtrip p h]; rfl

/-- every tree the parser builds has names of the grammar's lexical shape, none of them `not` -/
theorem accepted_text_wf (text : String) (p : Program) (hp : parseProgram text = some p) : p.WF :=
  parseProgram_wf hp

/-- **The property, for every accepted text, no hypothesis.** If `text` is accepted with tree `p`,
    then the printed text of `p` is accepted, parses to `p`, and prints to itself. -/
theorem accepted_text_roundtrip (text : String) (p : Program) (hp : parseProgram text = some p) :
    parseProgram (printProgram p) = some p ∧
      (parseProgram (printProgram p)).map printProgram = some (printProgram p) :=
  have h := accepted_text_wf text p hp
  ⟨roundtrip p h, print_parse_print p h⟩

/-- **The round trip for the parser as it is** (grammar + range check of numerals): whatever text
    anthem accepts as a program, the printed tree is accepted again, parses to the identical tree and
    prints to itself. -/
theorem accepted_text_roundtrip_checked (text : String) (p : Program) (hp : parseProgramChecked text = some p) :
    parseProgramChecked (printProgram p) = some p ∧
      (parseProgramChecked (printProgram p)).map printProgram = some (printProgram p) := by
  rw [parseProgramChecked_eq_filter] at hp ⊢
  obtain ⟨h0, hr⟩ := Option.filter_eq_some_iff.mp hp
  have this := Option.filter_eq_some_iff.mpr ⟨(accepted_text_roundtrip text p h0).1, hr⟩
  exact ⟨this, by rw [this]; rfl⟩

theorem not_is_no_name {cs l r : List Char} (h : lexSymbol cs = some (l, r)) : l ≠ ['n', 'o', 't'] :=
  lexSymbol_not_not h

/-- the term level on its own: the pair sequence of a printed term is Pratt-parsed back to the term -/
theorem pratt_inverts_parenthesisation (t : Term) : pratt (flat t) = some t := pratt_flat_eq t

/-- Non-vacuity: a program with a choice rule, a constraint with empty body, a fact, negation,
    double negation, a comparison over an interval and nested arithmetic with a negative numeral and
    a unary minus meets the hypothesis (so `roundtrip` applies to it). -/
def sample : Program :=
  [⟨.choice ⟨"p", [.var "X"]⟩, [.lit ⟨.neg, ⟨"q", [.bin .sub (.var "X") (.pre (.num (-1)))]⟩⟩,
      .lit ⟨.negneg, ⟨"r", []⟩⟩, .cmp .le (.neg (.pre (.num 2))) (.bin .interval (.pre (.num 1)) (.bin .mul (.var "Y") (.pre (.sym "a"))))]⟩,
   ⟨.falsity, []⟩,
   ⟨.basic ⟨"_q1", [.pre .inf, .pre .sup]⟩, []⟩]

theorem sample_wf : sample.WF := by
  have nil : ∀ {α : Type} {P : α → Prop}, ∀ x ∈ ([] : List α), P x := fun _ h => nomatch h
  have sym1 : ∀ {s : String} (c : Char), s.toList = [c] → c.isLower = true →
      SymName s.toList ∧ s.toList ≠ ['n', 'o', 't'] :=
    fun c e hc => e ▸ ⟨Or.inl ⟨c, [], rfl, hc, nil⟩, fun h => nomatch h⟩
  have var1 : ∀ {s : String} (c : Char), s.toList = [c] → c.isUpper = true → VarName s.toList :=
    fun c e hc => e ▸ ⟨c, [], rfl, hc, nil⟩
  obtain ⟨ep, eq, er, ea, e1, eX, eY⟩ : "p".toList = ['p'] ∧ "q".toList = ['q'] ∧ "r".toList = ['r'] ∧
      "a".toList = ['a'] ∧ "_q1".toList = ['_', 'q', '1'] ∧ "X".toList = ['X'] ∧ "Y".toList = ['Y'] := by
    decide +kernel
  have sp := sym1 'p' ep (by decide)
  have sq := sym1 'q' eq (by decide)
  have sr := sym1 'r' er (by decide)
  have sa := sym1 'a' ea (by decide)
  have s1 : SymName "_q1".toList ∧ "_q1".toList ≠ ['n', 'o', 't'] :=
    e1 ▸ ⟨Or.inr ⟨'q', ['1'], rfl, by decide, by decide⟩, by decide⟩
  have vx := var1 'X' eX (by decide)
  have vy := var1 'Y' eY (by decide)
  have all : ∀ {α : Type} {P : α → Prop} {a : α} {l : List α}, P a → (∀ x ∈ l, P x) → ∀ x ∈ a :: l, P x :=
    fun h1 h2 => List.forall_mem_cons.mpr ⟨h1, h2⟩
  have hp : Asp.Atom.WF ⟨"p", [.var "X"]⟩ := ⟨sp.1, sp.2, all vx nil⟩
  have hq : Asp.Atom.WF ⟨"q", [.bin .sub (.var "X") (.pre (.num (-1)))]⟩ := ⟨sq.1, sq.2, all ⟨vx, trivial⟩ nil⟩
  have hr : Asp.Atom.WF ⟨"r", []⟩ := ⟨sr.1, sr.2, nil⟩
  have hc : Asp.BodyAtom.WF (.cmp .le (.neg (.pre (.num 2)))
      (.bin .interval (.pre (.num 1)) (.bin .mul (.var "Y") (.pre (.sym "a"))))) := ⟨trivial, trivial, vy, sa⟩
  have h1 : Asp.Atom.WF ⟨"_q1", [.pre .inf, .pre .sup]⟩ := ⟨s1.1, s1.2, all trivial (all trivial nil)⟩
  exact all ⟨hp, all hq (all hr (all hc nil))⟩ (all ⟨trivial, nil⟩ (all ⟨h1, nil⟩ nil))

example : parseProgram (printProgram sample) = some sample := roundtrip sample sample_wf

/-- `-(n)` for a positive numeral is printed with parentheses, the numeral `-n` without: the two
    trees the parser distinguishes get different texts. -/
theorem neg_of_positive_numeral (n : Int) (h : 1 ≤ n) :
    Term.print (.neg (.pre (.num n))) = "-" ++ ("(" ++ toString n ++ ")") := by
  simp [Term.print, Term.prec, parenIf, Pre.print, h]

theorem negative_numeral (n : Int) : Term.print (.pre (.num n)) = toString n := by
  simp [Term.print, Pre.print]

/-- A right operand of equal binding strength is parenthesised (all operators are parsed
    left-associative), a left operand of equal strength is not. -/
theorem right_operand_same_level (a b c : Term) :
    Term.print (.bin .sub a (.bin .add b c)) =
      parenIf (3 < a.prec) a.print ++ " - " ++ ("(" ++ Term.print (.bin .add b c) ++ ")") := by
  rw [Term.print]
  simp only [Term.prec, Op.print, parenIf, Nat.lt_irrefl, decide_false, Bool.false_or, decide_true, if_true]
  rfl

theorem left_operand_same_level (a b c : Term) :
    Term.print (.bin .sub (.bin .add a b) c) =
      Term.print (.bin .add a b) ++ " - " ++ parenIf (3 < c.prec || 3 = c.prec) c.print := by
  rw [Term.print]
  simp only [Term.prec, Op.print, parenIf, Nat.lt_irrefl, decide_false, Bool.false_eq_true, if_false]
  rfl

/-- An operand that binds weaker is always parenthesised. -/
theorem weaker_operand_parenthesised (a b c : Term) :
    Term.print (.bin .mul (.bin .add a b) c) =
      ("(" ++ Term.print (.bin .add a b) ++ ")") ++ " * " ++ parenIf (2 < c.prec || 2 = c.prec) c.print := by
  rw [Term.print]
  simp only [Term.prec, Op.print, parenIf, show (2 : Nat) < 3 from by decide, decide_true, if_true]
  rfl

/-- A constraint prints `:-` even with an empty body; a fact prints no `:-`. -/
theorem constraint_prints_neck (b : List BodyAtom) :
    Rule.print ⟨.falsity, b⟩ = " :- " ++ ", ".intercalate (b.map BodyAtom.print) ++ "." := by
  simp [Rule.print, Head.print]

theorem fact_prints_no_neck (a : Asp.Atom) : Rule.print ⟨.basic a, []⟩ = a.print ++ "." := by
  simp [Rule.print, Head.print]

/-- Why `not` must not be a name: the term `not + 1` (symbol named `not`, which the text `not+1` would
    give if the lexer let it through) is printed with a space after `not`, which the grammar reads as the
    negation keyword. -/
theorem keyword_not_printed_with_space :
    Term.print (.bin .add (.pre (.sym "not")) (.pre (.num 1))) = "not + 1" := by decide +kernel

end Anthem.C14
