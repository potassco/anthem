/-
  C01 — the tau* theory has exactly the program's HT models.

  Proved at full strength (`tau_star_correct`): term level (`val` denotes the value set of a
  term, for every operator including partial division/modulo and intervals; the freshness of the
  names `I, J, K, Q, R` is proved, not assumed), body atoms (`tau_b`, fresh `Z` names by
  pigeonhole), rules (all three head kinds, global head variables `V<n>` fresh for the whole
  program) and programs, at both worlds of every HT interpretation. The hypothesis
  `globalsPanic P = false` of the statements is always true (`globalsPanic` is constantly `false`:
  anthem checks the index addition of the global variables, fix 1d6d77a);
  `tau_star_correct_every_program` is the statement without it.
-/
import AnthemModel.Proofs.TauStarRules
namespace Anthem.C01
open Asp

/-- The property at full strength: an HT interpretation satisfies every formula of `tauStar Π`
    (at world `w`, under any assignment) iff it satisfies every rule of `Π` in the reference
    semantics. -/
def TauStarCorrect : Prop :=
  ∀ (P : Program), globalsPanic P = false → ∀ (M : HTI), M.Sub → ∀ (w : World) (ρ : Asg),
    (∀ F ∈ tauStar P, ht M F w ρ) ↔ progSat M w P

/-- **C01.** For every program (`hp` holds by `rfl`), every HT interpretation, world and assignment; the
    proof does not use `M.Sub`, so no relation between `H` and `T` is needed. -/
theorem tau_star_correct : TauStarCorrect :=
  fun P hp M _ w ρ => tauStar_correct P hp M w ρ

/-- **C01 with no hypothesis at all**: the fresh head variables are fresh for every program
    (`C16.fresh_globals_always_fresh`). -/
theorem tau_star_correct_every_program (P : Program) (M : HTI) (w : World) (ρ : Asg) :
    (∀ F ∈ tauStar P, ht M F w ρ) ↔ progSat M w P :=
  tauStar_correct P rfl M w ρ

/-- Stable models (with input predicates) are exactly the equilibrium models of the tau* theory:
    the reference notion `Stable` can be read entirely through `tauStar`. -/
theorem stable_iff_equilibrium (P : Program) (hp : globalsPanic P = false) (ins : List Pred)
    (T : PredI) (fc : FcI) (ρ : Asg) :
    Stable P ins T fc ↔
      ((∀ F ∈ tauStar P, ht ⟨T, T, fc⟩ F .there ρ) ∧
        ∀ H : PredI, (∀ q a, H q a → T q a) →
          (∀ q a, (⟨q, a.length⟩ : Pred) ∈ ins → (H q a ↔ T q a)) →
          (∀ F ∈ tauStar P, ht ⟨H, T, fc⟩ F .here ρ) → ∀ q a, T q a → H q a) := by
  unfold Stable
  rw [tauStar_correct P hp ⟨T, T, fc⟩ .there ρ]
  refine and_congr_right fun _ => forall_congr' fun H => imp_congr_right fun _ =>
    imp_congr_right fun _ => ?_
  rw [tauStar_correct P hp ⟨H, T, fc⟩ .here ρ]

/-- The term level without any premise, for the output variables the translator uses. -/
theorem val_denotes_values_general (M : HTI) (w : World) (t : Term) (z : String) (ρ : Asg) :
    ht M (val t ⟨z, .general⟩) w ρ ↔ vals (σOf ρ) t (ρ ⟨z, .general⟩) :=
  val_correct_general M w t z ρ

/-- Body atoms: `tau_b` means "some value tuple is in the extent" / "some pair of values is related". -/
theorem tau_b_correct (M : HTI) (w : World) (f : BodyAtom) (ρ : Asg) :
    ht M (tauB f) w ρ ↔ bodyAtomSat M w (σOf ρ) f := tauB_sem M w f ρ

/-- The hypothesis on a program with an interval in the head, a partial operation and a choice rule
    (it holds by `rfl` for every program). -/
example : globalsPanic [⟨.basic ⟨"p", [.bin .interval (.pre (.num 1)) (.var "N")]⟩, [.lit ⟨.pos, ⟨"q", [.var "N"]⟩⟩]⟩,
    ⟨.choice ⟨"q", [.bin .div (.var "X") (.pre (.num 2))]⟩, [.lit ⟨.neg, ⟨"p", [.var "X"]⟩⟩]⟩,
    ⟨.falsity, [.cmp .lt (.var "V1") (.pre (.num 0))]⟩] = false := rfl

/-- **Key lemma (all term operators).** `val t z` holds iff the value of `z` is one of the
    values of `t` — including multi-valued intervals, partial division and modulo, and arithmetic
    that is undefined on non-integers. `ValFreshOK` collects the (decidable) freshness facts about
    the names `I, J, K, Q, R` chosen by the translator. -/
theorem val_denotes_values (M : HTI) (w : World) (t : Term) (z : Var) (hf : ValFreshOK t z)
    (ρ : Asg) : ht M (val t z) w ρ ↔ vals (σOf ρ) t (zval ρ z) :=
  val_correct M w t z hf ρ

/-- Division really is partial: `1/0` has no value, so `val (1/0) Z` is unsatisfiable. -/
theorem division_by_zero_has_no_value (σ : Subst) (d : Dom) :
    ¬ vals σ (.bin .div (.pre (.num 1)) (.pre (.num 0))) d := by
  rintro ⟨_, b, _, hb, h, _⟩
  cases hb
  exact Int.lt_irrefl 0 h

theorem symbol_plus_one_has_no_value (σ : Subst) (d : Dom) :
    ¬ vals σ (.bin .add (.pre (.sym "a")) (.pre (.num 1))) d := by
  rintro ⟨_, _, ha, _⟩
  cases ha

/-- An interval is multi-valued. -/
theorem interval_values (σ : Subst) (k : Int) :
    vals σ (.bin .interval (.pre (.num 1)) (.pre (.num 3))) (.num k) ↔ 1 ≤ k ∧ k ≤ 3 := by
  constructor
  · rintro ⟨_, _, ha, hb, _, h1, h2, e⟩
    cases ha; cases hb; cases e
    exact ⟨h1, h2⟩
  · exact fun ⟨h1, h2⟩ => ⟨1, 3, rfl, rfl, k, h1, h2, rfl⟩

/-- Non-vacuity: the freshness facts hold on adversarial names (`X/2` with output `I`;
    `(I + J) \ Q` with output `Z`), as instances of `valFreshOK_of_goodZ`. -/
example : ValFreshOK (.bin .div (.var "X") (.pre (.num 2))) ⟨"I", .integer⟩ :=
  valFreshOK_of_goodZ _ _ fun _ => Or.inl rfl
example : ValFreshOK (.bin .mod (.bin .add (.var "I") (.var "J")) (.var "Q")) ⟨"Z", .general⟩ :=
  valFreshOK_of_goodZ _ _ (goodZ_general "Z")

end Anthem.C01
