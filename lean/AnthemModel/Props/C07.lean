/-
  C07 — simplification portfolios preserve the meaning of every formula. The first three lemmas
  gather the per-rewrite facts of Proofs/Rewrites* by portfolio; the rest stand for the property.
-/
import AnthemModel.Proofs.RewritesQuant
import AnthemModel.Proofs.RewritesClassic
namespace Anthem.C07

theorem intuitionistic_rewrites_keep : ∀ r ∈ intuitionistic, ∀ F, HTKeeps (r F) F := by
  intro r hr
  simp only [intuitionistic, List.mem_cons, List.mem_nil_iff, or_false] at hr
  rcases hr with rfl | rfl | rfl | rfl | rfl | rfl | rfl | rfl | rfl | rfl
  · exact evaluateComparisons_keeps
  · exact applyNegationDefinitionInverse_keeps
  · exact applyReverseImplicationDefinition_keeps
  · exact applyEquivalenceDefinitionInverse_keeps
  · exact removeIdentities_keeps
  · exact removeAnnihilations_keeps
  · exact removeIdempotences_keeps
  · exact removeOrphanedVariables_keeps
  · exact removeEmptyQuantifications_keeps
  · exact joinNestedQuantifiers_keeps

theorem classic_rewrites_keep : ∀ r ∈ classic, ∀ F, ClassKeeps (r F) F := by
  intro r hr
  simp only [classic, List.mem_cons, List.mem_nil_iff, or_false] at hr
  rcases hr with rfl | rfl | rfl | rfl | rfl
  · exact removeDoubleNegation_keeps
  · exact substituteDefinedVariables_keeps
  · exact restrictQuantifierDomain_keeps
  · exact fun F => (extendQuantifierScope_keeps F).toClass
  · exact simplifyTransitiveEquality_keeps

/-- every portfolio draws on the two arrays: `HT` is empty in the source -/
theorem portfolio_rewrites_keep (p : Portfolio) : ∀ r ∈ p.rewrites, ∀ F, ClassKeeps (r F) F := by
  intro r hr F
  have : r ∈ intuitionistic ∨ r ∈ classic := by
    cases p <;> simp only [Portfolio.rewrites, htPortfolio, List.append_nil, List.mem_append] at hr
    · exact Or.inl hr
    · exact Or.inl hr
    · exact hr
  exact this.elim (fun h => (intuitionistic_rewrites_keep r h F).toClass) (fun h => classic_rewrites_keep r h F)

/-- **C07 for the intuitionistic portfolio**: every strategy, every pass bound, every formula,
    every HT interpretation (H ⊆ T), both worlds, every assignment. -/
theorem portfolio_sound_intuitionistic (s : Strategy) (fuel : Nat) (F : Formula) :
    HTEquiv (simplifyWith .intuitionistic s fuel F).1 F :=
  (HTKeeps.congr.simplifyWith (p := .intuitionistic) intuitionistic_rewrites_keep s fuel F).1

/-- **C07 for the ht portfolio** (`INTUITIONISTIC ++ HT`, and `HT` is empty in the source). -/
theorem portfolio_sound_ht (s : Strategy) (fuel : Nat) (F : Formula) :
    HTEquiv (simplifyWith .ht s fuel F).1 F :=
  (HTKeeps.congr.simplifyWith (p := .ht)
    (fun r hr => intuitionistic_rewrites_keep r (List.append_nil intuitionistic ▸ hr)) s fuel F).1

/-- `remove_double_negation` is a classical equivalence (it is *not* an HT-equivalence, which is
    why it lives in the classic portfolio). -/
theorem removeDoubleNegation_sound (F : Formula) : ClassEquiv (removeDoubleNegation F) F :=
  (removeDoubleNegation_keeps F).1

/-- `extend_quantifier_scope` preserves HT meaning (all four shapes, both quantifiers), hence
    classical meaning. -/
theorem extendQuantifierScope_sound (F : Formula) : ClassEquiv (extendQuantifierScope F) F :=
  (extendQuantifierScope_keeps F).1.toClass

/-- `substitute_defined_variables` preserves classical meaning (it rests on the substitution
    lemma C17 and on the soundness of `find_definition`: the body entails `X = t`, `t` does not
    mention `X` and has `X`'s sort). -/
theorem substituteDefinedVariables_sound (F : Formula) :
    ClassEquiv (substituteDefinedVariables F) F :=
  (substituteDefinedVariables_keeps F).1

/-- `restrict_quantifier_domain` preserves classical meaning (both forms; rests on C17, on the
    freshness of `choose_fresh_variable_names`, and on the inner equation `I$i = Z` forcing the
    not-rebound general variable `Z` to an integer; needs the repair fix: 8154c20). -/
theorem restrictQuantifierDomain_sound (F : Formula) : ClassEquiv (restrictQuantifierDomain F) F :=
  (restrictQuantifierDomain_keeps F).1

/-- `simplify_transitive_equality` preserves classical meaning (needs the repair fix: f1b4fb0:
    only one copy of a duplicated non-reflexive equation is dropped). -/
theorem simplifyTransitiveEquality_sound (F : Formula) :
    ClassEquiv (simplifyTransitiveEquality F) F :=
  (simplifyTransitiveEquality_keeps F).1

/-- **C07 for the classic portfolio, unconditional**: every rewrite of
    `INTUITIONISTIC ++ HT ++ CLASSIC`, under every strategy and any number of passes, preserves
    classical satisfaction in every interpretation under every assignment. -/
theorem portfolio_sound_classic (s : Strategy) (fuel : Nat) (F : Formula) :
    ClassEquiv (simplifyWith .classic s fuel F).1 F :=
  (ClassKeeps.congr.simplifyWith (portfolio_rewrites_keep .classic) s fuel F).1

theorem rewrites_no_new_free_variables :
    ∀ r ∈ intuitionistic ++ htPortfolio ++ classic, ∀ F, FVLe (r F) F :=
  fun r hr F => (portfolio_rewrites_keep .classic r hr F).2

/-- **C07, second claim**: whatever the portfolio, strategy and pass bound, the result has no free
    variable that the input did not have. -/
theorem portfolio_no_new_free_variables (p : Portfolio) (s : Strategy) (fuel : Nat) (F : Formula) :
    ∀ v, (simplifyWith p s fuel F).1.FV v → F.FV v :=
  (ClassKeeps.congr.simplifyWith (portfolio_rewrites_keep p) s fuel F).2

/-- Non-vacuity: the portfolio really rewrites something (`p and #true` becomes `p`). -/
example : (simplifyWith .intuitionistic .fixpoint 8
    (.bin .and (.atomic (.atom ⟨"p", []⟩)) (.atomic .tru))).1 = .atomic (.atom ⟨"p", []⟩) := by
  decide +kernel

end Anthem.C07
