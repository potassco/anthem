/-
  C17 — substitution of a term for a variable never captures variables.

  The model mirrors `Formula::substitute` after the `fix:` commit b9b9933 (see
  known_findings.jsonl for the two witnesses that failed before; reverting the fix makes the
  correspondence fail). Proved at full strength: for EVERY formula (binders reusing the
  substituted name, binders naming variables of the term, several such binders in one block,
  the same variable bound twice in a block, fresh-name candidates already taken, same name at two
  sorts), every variable and every sort-compatible term, in every HT interpretation, world and
  assignment (hence classically), the result has the truth value of the original with the
  variable assigned the term's value; its free variables are among those of the original minus
  the variable plus those of the term. The fresh names are the ones the real search picks
  (`freshVar`, shown fresh by a pigeonhole argument).
-/
import AnthemModel.Proofs.SubstBasic
import AnthemModel.Proofs.SubstFull
namespace Anthem.C17

/-- The property at full strength (HT version; the classical one is the `there` world). -/
def SubstituteCorrect : Prop :=
  ∀ (F : Formula) (v : Var) (s : GTerm), SortCompatible v s →
    ∀ (M : HTI) (w : World) (ρ : Asg),
      ht M (F.subst v s) w ρ ↔ ht M F w (ρ.set v (s.eval M.fc ρ))

/-- **C17, first sentence — proved without side condition.** -/
theorem substitute_correct : SubstituteCorrect :=
  fun F v s hc M w ρ => ht_subst M F v s hc w ρ

theorem substitute_correct_classical (F : Formula) (v : Var) (s : GTerm)
    (hc : SortCompatible v s) (I : Interp) (ρ : Asg) :
    sat I (F.subst v s) ρ ↔ sat I F (ρ.set v (s.eval I.fc ρ)) :=
  sat_subst I F v s hc ρ

/-- **C17, second sentence.** Free variables of the result: those of the original minus the
    variable, plus (at most) those of the term. -/
theorem substitute_fv (F : Formula) (v : Var) (s : GTerm)
    (hc : SortCompatible v s) (u : Var) (hu : (F.subst v s).FV u) :
    (F.FV u ∧ u ≠ v) ∨ u ∈ s.vars :=
  subst_FV F v s hc u hu

theorem term_substitute_correct (fc : FcI) (ρ : Asg) (t : GTerm) (v : Var) (s : GTerm)
    (hc : SortCompatible v s) :
    (t.subst v s).eval fc ρ = t.eval fc (ρ.set v (s.eval fc ρ)) :=
  GTerm.eval_subst fc ρ t v s hc

theorem atomic_substitute_correct (P : PredI) (fc : FcI) (ρ : Asg) (a : AtomicF) (v : Var)
    (s : GTerm) (hc : SortCompatible v s) :
    (a.subst v s).sat P fc ρ ↔ a.sat P fc (ρ.set v (s.eval fc ρ)) :=
  a.sat_subst P fc ρ v s hc

/-- **C17, third sentence.** Bound occurrences are untouched: substituting a variable bound by
    the outermost block returns the formula itself … -/
theorem substitute_bound (q : Quant) (vs : List Var) (f : Formula) (v : Var) (s : GTerm)
    (h : v ∈ vs) : (Formula.quant q vs f).subst v s = .quant q vs f := by
  simp [Formula.subst, Formula.substFuel, h]

/-- … and a variable of the same name but another sort is a different variable: a term that does
    not mention `v` is not changed (general variable vs integer variable of the same name). -/
theorem substitute_other_sort (x : String) (s : GTerm) :
    (GTerm.int (.var x)).subst ⟨x, .general⟩ s = .int (.var x) ∧
    (GTerm.var x).subst ⟨x, .integer⟩ s = .var x := by
  simp [GTerm.subst]

/-- The fresh binder chosen by the real search is never a taken name. -/
theorem fresh_binder_not_taken (base : Var) (taken : List Var) : freshVar base taken ∉ taken :=
  freshVar_not_mem base taken

/-- Putting `Y` for `Y1` below `exists Y` renames the binder, to `Y2` since `Y1` is the variable
    being replaced, so that the `Y` put in would not be captured. -/
example : (Formula.quant .ex [⟨"Y", .general⟩] (.atomic (.atom ⟨"p", [.var "Y"]⟩))).subst
    ⟨"Y1", .general⟩ (.var "Y") =
    .quant .ex [⟨"Y2", .general⟩] (.atomic (.atom ⟨"p", [.var "Y2"]⟩)) := by decide +kernel

/-- Non-vacuity: `SortCompatible` holds for the substitutions the library performs. -/
example : SortCompatible ⟨"X", .general⟩ (.var "Y") ∧ SortCompatible ⟨"X", .integer⟩ (.int (.num 3)) := by
  simp [SortCompatible]

end Anthem.C17
