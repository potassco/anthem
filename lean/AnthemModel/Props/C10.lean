/-
  C10 — success is reported iff every problem is proven, under any prover schedule or fault.
  Proved for the model: the verdict is true iff every arrival is an output whose first SZS status
  line says Theorem; it is invariant under permutation of arrivals; the pool transition system
  delivers, in every maximal execution and for every number of workers, a permutation of the
  submitted jobs (each exactly once). Modelled, not verified: threadpool, mpsc, process spawning,
  pipes (see DESIGN.md 6/C10); tied by the stand-in prover exploration of the check.
-/
import AnthemModel.Model.Status
namespace Anthem.C10

/-- **Verdict.** Success iff every arrival is an output with status `Theorem`. -/
theorem verdict_iff (arrivals : List RunResult) :
    verdict arrivals = true ↔ ∀ r ∈ arrivals, ∃ s, r = .output s ∧ statusOf s = .ok .theorem := by
  simp only [verdict, List.all_eq_true]
  refine forall_congr' fun r => imp_congr_right fun _ => ?_
  cases r <;> simp [RunResult.proven]

/-- Any fault (spawn / write / wait / non-UTF-8) of any run yields failure. -/
theorem fault_fails (arrivals : List RunResult) (r : RunResult) (hr : r ∈ arrivals)
    (hf : r = .spawnError ∨ r = .writeError ∨ r = .waitError ∨ r = .utf8Error) :
    verdict arrivals = false := by
  cases h : verdict arrivals with
  | false => rfl
  | true =>
    obtain ⟨s, hs, _⟩ := (verdict_iff arrivals).mp h r hr
    rcases hf with rfl | rfl | rfl | rfl <;> cases hs

/-- Any status other than Theorem, a missing status line or an unknown word yields failure. -/
theorem non_theorem_fails (arrivals : List RunResult) (s : String) (hr : RunResult.output s ∈ arrivals)
    (hs : statusOf s ≠ .ok .theorem) : verdict arrivals = false := by
  cases h : verdict arrivals with
  | false => rfl
  | true =>
    obtain ⟨s', e, hs'⟩ := (verdict_iff arrivals).mp h _ hr
    injection e with e; subst e; exact absurd hs' hs

/-- **Order independence.** The verdict does not depend on the order in which results arrive. -/
theorem verdict_perm (a b : List RunResult) (h : a.Perm b) : verdict a = verdict b := by
  simp only [verdict]
  induction h with
  | nil => rfl
  | cons x _ ih => simp [List.all_cons, ih]
  | swap x y l => simp [List.all_cons, Bool.and_left_comm]
  | trans _ _ ih₁ ih₂ => exact ih₁.trans ih₂

/-- invariant of the pool: nothing is lost or duplicated -/
theorem pool_invariant {α : Type} (n : Nat) (s t : PoolState α) (h : PoolReach n s t) :
    (t.queue ++ t.running ++ t.received).Perm (s.queue ++ s.running ++ s.received) := by
  induction h with
  | refl => exact List.Perm.refl _
  | step _ hstep ih =>
    refine List.Perm.trans ?_ ih
    cases hstep with
    | start j q r d _ =>
      exact (((List.perm_append_singleton j r).append_left q).trans List.perm_middle).append_right d
    | finish r₁ j r₂ q d =>
      -- both sides are `j` in front of `q ++ (r₁ ++ r₂) ++ d`
      have h1 : (q ++ (r₁ ++ j :: r₂) ++ d).Perm (j :: (q ++ (r₁ ++ r₂) ++ d)) :=
        ((List.perm_middle.append_left q).trans List.perm_middle).append_right d
      have h2 : (q ++ (r₁ ++ r₂) ++ (d ++ [j])).Perm (j :: (q ++ (r₁ ++ r₂) ++ d)) := by
        rw [← List.append_assoc]; exact List.perm_append_singleton j _
      exact h2.trans h1.symm

/-- **Pool completeness.** From the initial state (all jobs queued), every terminal state that can
    be reached — under any schedule, for any number `n` of workers — has received a permutation of
    the jobs: each job's result exactly once. -/
theorem pool_complete {α : Type} (n : Nat) (jobs : List α) (t : PoolState α)
    (h : PoolReach n ⟨jobs, [], []⟩ t) (ht : t.terminal) : t.received.Perm jobs := by
  have := pool_invariant n _ _ h
  obtain ⟨hq, hr⟩ := ht
  simpa [hq, hr] using this

/-- Progress: a non-terminal state with at least one worker can always take a step, so maximal
    executions end in terminal states. -/
theorem pool_progress {α : Type} (n : Nat) (hn : 0 < n) (s : PoolState α) (h : ¬ s.terminal) :
    ∃ t, PoolStep n s t := by
  obtain ⟨q, r, d⟩ := s
  cases r with
  | nil =>
    cases q with
    | nil => exact absurd ⟨rfl, rfl⟩ h
    | cons j q => exact ⟨_, .start j q [] d (by simpa using hn)⟩
  | cons j r => exact ⟨_, .finish [] j r q d⟩

/-- Each step decreases `2·|queue| + |running|`, so every execution is finite. -/
theorem pool_measure {α : Type} (n : Nat) (s t : PoolState α) (h : PoolStep n s t) :
    2 * t.queue.length + t.running.length < 2 * s.queue.length + s.running.length := by
  -- `start` moves a job from the queue to the running ones (-2, +1), `finish` removes a running one (-1)
  cases h <;> simp <;> omega

/-- Hence: success is reported iff every job's run printed `SZS status Theorem`, for every
    schedule and every number of workers. -/
theorem success_iff_all_theorem (n : Nat) (runs : List RunResult) (t : PoolState RunResult)
    (h : PoolReach n ⟨runs, [], []⟩ t) (ht : t.terminal) :
    verdict t.received = true ↔ ∀ r ∈ runs, ∃ s, r = .output s ∧ statusOf s = .ok .theorem := by
  rw [verdict_perm _ _ (pool_complete n runs t h ht), verdict_iff]

/-- The status is read from the *first* status line, and only the exact word counts. -/
example : statusOf "% SZS status Theorem for forward_0\n% SZS status Timeout for x" = .ok .theorem := by
  decide +kernel
example : statusOf "SZS status Theorems for x" = .unknown "Theorems" := by decide +kernel
example : statusOf "SZS status  Theorem for x" = .missing := by decide +kernel
example : statusOf "SZS status CounterSatisfiable for " = .ok .counterSatisfiable := by decide +kernel

end Anthem.C10
