/-
  C08 — natural and mu translations agree with tau*.
  Status: proved. `natural_correct`: every formula the natural translation prints for a rule holds
  in an HT interpretation (H ⊆ T, any world, any assignment) iff the rule is satisfied in the
  reference semantics - hence iff the rule's tau* formula holds (`natural_equiv_tau_star`,
  `mu_equiv_tau_star`: formula by formula). `mu` is total. The integer-sorted variables are sound
  because an instance in which such a variable has a non-integer value holds vacuously
  (`ruleInst_vacuous`). The fresh interval variables `N<i>` are proved fresh (`headFreshOK`).
-/
import AnthemModel.Model.Natural
import AnthemModel.Semantics.Asp
import AnthemModel.Proofs.NaturalFresh
namespace Anthem.C08
open Asp

def NaturalCorrect : Prop :=
  ∀ (r : Rule) (F : Formula), naturalRule r = some F →
    ∀ (M : HTI), M.Sub → ∀ (w : World) (ρ : Asg), ht M F w ρ ↔ ruleSat M w r

/-- **C08, natural.** -/
theorem natural_correct : NaturalCorrect :=
  fun r F h M hs w ρ => naturalRule_sem M hs w r F h (fun a _ => headFreshOK a) ρ

/-- Each formula `translate --with natural` prints is HT-equivalent to the tau* formula of the same
    rule (with any admissible choice of global variables, in particular the program's). -/
theorem natural_equiv_tau_star (r : Rule) (F : Formula) (h : naturalRule r = some F)
    (globals : List String) (hn : globals.Nodup) (hfresh : ∀ g ∈ globals, g ∉ r.vars)
    (hlen : r.head.arity ≤ globals.length) :
    HTEquiv F (tauStarRule r globals) := fun M hs w ρ =>
  (natural_correct r F h M hs w ρ).trans (tauStarRule_sem M w r globals hn hfresh hlen ρ).symm

/-- **C08, mu**: formula by formula, `mu(Π)` and `tau_star(Π)` are HT-equivalent. -/
theorem mu_equiv_tau_star (P : Program) (hp : globalsPanic P = false) (i : Nat) (hi : i < P.length) :
    HTEquiv ((mu P)[i]'(by simpa [mu] using hi)) ((tauStar P)[i]'(by simpa [tauStar] using hi)) := by
  intro M hs w ρ
  have hr : P[i] ∈ P := List.getElem_mem hi
  simp only [mu, tauStar, List.getElem_map]
  exact (mu_rule_sem P M hs w ρ hr).trans (tauStarRule_sem_of_mem P M w ρ hr).symm

/-- … and as theories: `mu(Π)` has exactly the HT models of `Π`. -/
theorem mu_correct (P : Program) (hp : globalsPanic P = false) (M : HTI) (hs : M.Sub) (w : World) (ρ : Asg) :
    (∀ F ∈ mu P, ht M F w ρ) ↔ progSat M w P :=
  List.forall_mem_map.trans
    (forall_congr' fun _ => imp_congr_right fun hr => mu_rule_sem P M hs w ρ hr)

/-- Non-vacuity: natural accepts a rule with an interval in the head, arithmetic in the body and an
    `=`-interval comparison, and introduces the integer variables. -/
example : (naturalRule ⟨.basic ⟨"p", [.bin .interval (.pre (.num 1)) (.var "N"), .var "X"]⟩,
    [.lit ⟨.pos, ⟨"q", [.bin .add (.var "X") (.pre (.num 1))]⟩⟩, .cmp .eq (.var "Y") (.bin .interval (.pre (.num 0)) (.var "N"))]⟩).isSome = true := by
  decide +kernel

/-- `mu` never fails and yields one formula per rule. -/
theorem mu_total (p : Program) : (mu p).length = p.length := by
  simp [mu]

/-- A rule the natural translation accepts is translated naturally by `mu` … -/
theorem mu_rule_natural (p : Program) (i : Nat) (h : i < p.length) (f : Formula)
    (hn : naturalRule p[i] = some f) : (mu p)[i]'(by simpa [mu] using h) = f := by
  simp only [mu, List.getElem_map, hn]

/-- … and any other rule gets its tau* translation with the program-wide globals. -/
theorem mu_rule_fallback (p : Program) (i : Nat) (h : i < p.length)
    (hn : naturalRule p[i] = none) :
    (mu p)[i]'(by simpa [mu] using h) = tauStarRule p[i] (chooseFreshGlobals p) := by
  simp only [mu, List.getElem_map, hn]

/-- `natural` accepts a program iff it accepts every rule; `is_regular` is exactly that. -/
theorem regular_iff (p : Program) : isRegular p = true ↔ ∀ r ∈ p, (naturalRule r).isSome = true := by
  unfold isRegular natural
  induction p with
  | nil => exact iff_of_true rfl (fun _ h => nomatch h)
  | cons r rs ih =>
    rw [List.forall_mem_cons, ← ih]
    simp only [Option.isSome_iff_exists]
    exact ⟨fun ⟨_, h⟩ => by
        obtain ⟨f, fs, hr, hrs, _⟩ := mapM_cons_eq_some.mp h
        exact ⟨⟨f, hr⟩, fs, hrs⟩,
      fun ⟨⟨f, hr⟩, fs, hrs⟩ => ⟨f :: fs, mapM_cons_eq_some.mpr ⟨f, fs, hr, hrs, rfl⟩⟩⟩

/-- On a program that `natural` accepts, `mu` and `natural` print the same theory. -/
theorem mu_eq_natural (p : Program) (t : Theory) (h : natural p = some t) : mu p = t := by
  -- the global variables are only used on rules natural rejects, and there are none
  have key : ∀ (g : List String) (p : Program) (t : Theory), p.mapM naturalRule = some t →
      p.map (fun r => match naturalRule r with | some f => f | none => tauStarRule r g) = t := by
    intro g p
    induction p with
    | nil => intro t h; cases mapM_nil_eq_some.mp h; rfl
    | cons r rs ih =>
      intro t h
      obtain ⟨f, fs, hr, hrs, rfl⟩ := mapM_cons_eq_some.mp h
      rw [List.map_cons, ih fs hrs, hr]
  exact key _ p t h

/-- Non-vacuity: an irregular rule (division) falls back to tau*, a regular one does not. -/
example : naturalRule ⟨.basic ⟨"p", [.bin .div (.var "X") (.pre (.num 2))]⟩, []⟩ = none := by decide +kernel
example : (naturalRule ⟨.basic ⟨"p", [.bin .add (.var "X") (.pre (.num 2))]⟩, []⟩).isSome = true := by
  decide +kernel

end Anthem.C08
