/-
  C02 — external-equivalence obligations are refuted exactly by behavioural differences. About the model of
  the whole pipeline (`externalProblems`), tightness not bypassed.
  * Two-sided, for tasks without a proof outline, under the side condition that `rename_conflicting_symbols`
    is the identity on the assembled problems (`NoSymbolConflictGen`; `NoSymbolConflictSpec` in
    `external_refutes_specification`, the same for a specification without placeholders):
    `external_refutes_programs`, `external_refutes_specification` and
    `external_refutes_specification_with_placeholders`. They compose C04
    (`completion_tight`), C07 (classic portfolio), C19 (eq-break, decompositions, `final_family_refutes`), the
    renaming of clashing private predicates and the assembly.
  * One-sided, for EVERY accepted task (placeholders, simplification, proof outline with lemmas, inductive
    lemmas and definitions) and with no side condition: `external_sound_no_side_condition`, and its reading
    about the programs alone, `every_accepted_program_task_sound` and
    `every_accepted_specification_task_sound`. With an outline the converse is not claimed.
  * What the conditions mean (`cannot_produce_public_part`, `private_definitions_satisfiable`,
    `one_interpretation_carries_both_readings`, `placeholder_reading`, ...), and two tasks on which anthem was
    wrong, as examples: `missing_output_now_refutable` (fix 82641ae), `rename_clash_now_separated` (fix 06d5e1b).
-/
import AnthemModel.Model.External
import AnthemModel.Props.C19
import AnthemModel.Proofs.ExternalSem
import AnthemModel.Proofs.ExternalSemSpec
import AnthemModel.Proofs.ExternalSemPh
import AnthemModel.Proofs.PrivateUnique
import AnthemModel.Proofs.RenameFresh
import AnthemModel.Proofs.ExternalProgramLevel
namespace Anthem.C02
open Asp

/-- the program side produces `J`: `J`, read on the program's vocabulary (clashing private predicates
    through their `_p` copies) with the placeholders replaced by the values `J` gives them, is a stable
    model of the program with `J`'s input facts, and the output predicates the program does not mention
    are empty -/
def ProducesR (t : ExternalTask) (J : Interp) : Prop :=
  Stable (t.program.substSym (phNu t.phMap J.fc)) t.userGuide.inputs
    (restrictTo (ext t.program.preds t.userGuide.inputs)
      (renamedInterp t.clashMap J.pred)) J.fc ∧
  OutputsEmpty t t.program (renamedInterp t.clashMap J.pred)

/-- the same for a specification program `PL` -/
def ProducesL (t : ExternalTask) (PL : Program) (J : Interp) : Prop :=
  Stable (PL.substSym (phNu t.phMap J.fc)) t.userGuide.inputs (restrictTo (ext PL.preds t.userGuide.inputs) J.pred) J.fc ∧
  OutputsEmpty t PL J.pred

/-- without placeholders the programs are read as they are -/
theorem no_placeholders (t : ExternalTask) (hph : t.userGuide.placeholders = []) (fc : FcI) (p : Program) :
    p.substSym (phNu t.phMap fc) = p := by
  rw [phMap_nil t hph, phNu_nil]; exact Program.substSym_id p

/-- **C02, specification against program** (no placeholders, no proof outline, tightness not
    bypassed; every direction, decomposition, simplify and eq-break setting; every role/direction
    annotation of the specification that the task accepts). A backward-annotated *assumption* of the
    specification is dropped by the code: it is in none of `lStable`, `lFwdPrem`, `lBwdConc`. -/
theorem external_refutes_specification (t : ExternalTask) (S : Specification) (hspec : t.specification = .inr S)
    (hph : t.userGuide.placeholders = []) (hpo : t.proofOutline = []) (hbyp : t.bypassTightness = false)
    (fuel : Nat) (ps : List Problem) (h : externalProblems t fuel = .ok ps) :
    ∃ ΓR, theoryTranslate t [] fuel t.program = .ok ΓR ∧
      (NoSymbolConflictSpec t S ΓR → ∀ (J : Interp) (ρ : Asg),
        ((∃ P ∈ ps, Refutes J ρ P) ↔
          (∀ a ∈ t.userGuide.formulas, a.role = .assumption → sat J a.formula ρ) ∧
          (∀ a ∈ S, lStable a = true → sat J a.formula ρ) ∧
          (∀ a ∈ rightSide t ΓR, a.role = .assumption → sat J a.formula ρ) ∧
          (((t.direction = .universal ∨ t.direction = .forward) ∧
              (∀ a ∈ S, lFwdPrem a = true → sat J a.formula ρ) ∧ ¬ ProducesR t J) ∨
           ((t.direction = .universal ∨ t.direction = .backward) ∧
              ProducesR t J ∧ ∃ a ∈ S, lBwdConc a = true ∧ ¬ sat J a.formula ρ)))) := by
  obtain ⟨ΓR, hR, hmain⟩ := Anthem.external_refutes_spec t S hspec hph hpo hbyp fuel ps h
  refine ⟨ΓR, hR, fun hnc J ρ => ?_⟩
  have := hmain hnc J ρ
  unfold ProducesR
  rw [no_placeholders t hph]
  exact this

/-- **C02, program against program** (placeholders of any sort allowed; no proof outline, tightness not
    bypassed; every direction, decomposition, simplify and eq-break setting). Some emitted problem is
    refuted by a classical interpretation `J` iff `J` satisfies the user-guide assumptions and, in a
    requested direction, one program produces `J` (stable model on that program's vocabulary with `J`'s
    input facts and placeholder values, absent output predicates empty), `J` satisfies the completed
    definitions of the other program's private predicates, and the other program does not produce `J`.
    `t.phMap` is the placeholder map, `phNu t.phMap J.fc s` the precomputed term `J` assigns to the
    symbolic constant `s` (`s` itself when it is no placeholder: `no_placeholders`). -/
theorem external_refutes_programs (t : ExternalTask) (PL : Program)
    (hspec : t.specification = .inl PL) (hpo : t.proofOutline = []) (hbyp : t.bypassTightness = false)
    (fuel : Nat) (ps : List Problem) (h : externalProblems t fuel = .ok ps) :
    ∃ ΓL ΓR, theoryTranslate t t.phMap fuel PL = .ok ΓL ∧ theoryTranslate t t.phMap fuel t.program = .ok ΓR ∧
      (NoSymbolConflictGen (assembledGen t (leftSide t ΓL) t.ugAss ΓR) → ∀ (J : Interp) (ρ : Asg),
        ((∃ P ∈ ps, Refutes J ρ P) ↔
          (∀ a ∈ t.userGuide.formulas, a.role = .assumption → sat J (a.formula.replacePlaceholders t.phMap) ρ) ∧
          (((t.direction = .universal ∨ t.direction = .forward) ∧
              ProducesL t PL J ∧ (∀ a ∈ rightSide t ΓR, a.role = .assumption → sat J a.formula ρ) ∧ ¬ ProducesR t J) ∨
           ((t.direction = .universal ∨ t.direction = .backward) ∧
              ProducesR t J ∧ (∀ a ∈ leftSide t ΓL, a.role = .assumption → sat J a.formula ρ) ∧ ¬ ProducesL t PL J)))) :=
  -- the right-hand side is `WitnessPrograms t PL ΓL ΓR J ρ` unfolded
  Anthem.external_refutes_programs_ph t PL hspec hpo hbyp fuel ps h

/-- **C02 with placeholders, specification against program.** -/
theorem external_refutes_specification_with_placeholders (t : ExternalTask) (S : Specification)
    (hspec : t.specification = .inr S) (hpo : t.proofOutline = []) (hbyp : t.bypassTightness = false)
    (fuel : Nat) (ps : List Problem) (h : externalProblems t fuel = .ok ps) :
    ∃ ΓR, theoryTranslate t t.phMap fuel t.program = .ok ΓR ∧
      (NoSymbolConflictGen (assembledGen t (S.map (SAnn.replacePlaceholders t.phMap)) t.ugAss ΓR) →
        ∀ (J : Interp) (ρ : Asg),
        ((∃ P ∈ ps, Refutes J ρ P) ↔
          (∀ a ∈ t.userGuide.formulas, a.role = .assumption → sat J (a.formula.replacePlaceholders t.phMap) ρ) ∧
          (∀ a ∈ S, lStable a = true → sat J (a.formula.replacePlaceholders t.phMap) ρ) ∧
          (∀ a ∈ rightSide t ΓR, a.role = .assumption → sat J a.formula ρ) ∧
          (((t.direction = .universal ∨ t.direction = .forward) ∧
              (∀ a ∈ S, lFwdPrem a = true → sat J (a.formula.replacePlaceholders t.phMap) ρ) ∧ ¬ ProducesR t J) ∨
           ((t.direction = .universal ∨ t.direction = .backward) ∧
              ProducesR t J ∧ ∃ a ∈ S, lBwdConc a = true ∧ ¬ sat J (a.formula.replacePlaceholders t.phMap) ρ)))) :=
  Anthem.external_refutes_spec_ph t S hspec hpo hbyp fuel ps h

/-- what the placeholder reading does: an integer placeholder `n` stands for the numeral that is the
    value of `n$i`, a symbol that is no placeholder stands for itself; tau* of the program with the
    values substituted is tau* of the program with the matching closed terms substituted -/
theorem placeholder_reading (fc : FcI) :
    phNu [("n", .integer)] fc "n" = .num (fc "n" .integer).toInt ∧ phNu [("n", .integer)] fc "a" = .sym "a" :=
  ⟨rfl, rfl⟩

theorem tau_star_commutes_with_placeholder_values (ν : String → Pre) (p : Program) :
    tauStar (p.substSym ν) = (tauStar p).map (Formula.substSym (thetaOf ν)) := tauStar_substSym ν p

/-- **C02, soundness for every accepted task** (placeholders and proof outline included). `left` is
    the specification side as it enters the problems (the control-translated theory of a
    specification program, or the specification's formulas with placeholders replaced); the
    conclusion is the negation of the difference-witness condition of the theorems above. -/
theorem external_sound_with_outline (t : ExternalTask) (hbyp : t.bypassTightness = false) (fuel : Nat)
    (ps : List Problem) (h : externalProblems t fuel = .ok ps) :
    ∃ (left : List SAnn) (ΓR : Theory) (po : ProofOutline),
      (match t.specification with
        | .inl PL => ∃ ΓL, theoryTranslate t t.phMap fuel PL = .ok ΓL ∧ left = controlTranslate t.userGuide.publicPreds ΓL
        | .inr S => left = S.map (SAnn.replacePlaceholders t.phMap)) ∧
      theoryTranslate t t.phMap fuel t.program = .ok ΓR ∧
      (Outline.NoConflictAll (assembledGen t left t.ugAss ΓR) ((rightSide t ΓR).filter isSpec)
          (left.filter lBwdConc) t.breakEq po →
        (∀ P ∈ ps, ∀ J ρ, ¬ Refutes J ρ P) →
        ∀ (J : Interp) (ρ : Asg),
          ¬ ((∀ a ∈ t.ugAss, sat J a.formula ρ) ∧
            (∀ a ∈ left, lStable a = true → sat J a.formula ρ) ∧
            (∀ a ∈ rightSide t ΓR, a.role = .assumption → sat J a.formula ρ) ∧
            (((t.direction = .universal ∨ t.direction = .forward) ∧
                (∀ a ∈ left, lFwdPrem a = true → sat J a.formula ρ) ∧ ¬ ProducesR t J) ∨
             ((t.direction = .universal ∨ t.direction = .backward) ∧
                ProducesR t J ∧ ∃ a ∈ left, lBwdConc a = true ∧ ¬ sat J a.formula ρ)))) := by
  -- the side condition is not needed (`external_sound_no_side_condition`), so any outline serves
  obtain ⟨left, ΓR, hleft, hR, himp⟩ := Outline.external_outline_sound_valid t hbyp fuel ps h
  exact ⟨left, ΓR, {}, hleft, hR, fun _ => himp⟩

/-- which annotated formulas of a specification play which part (read off `assemble`) -/
theorem specification_roles (a : SAnn) :
    (lStable a = true ↔ a.role = .assumption ∧ a.direction = .universal) ∧
    (lFwdPrem a = true ↔ (a.role = .assumption ∧ a.direction = .forward) ∨
      (a.role = .spec ∧ (a.direction = .universal ∨ a.direction = .forward))) ∧
    (lBwdConc a = true ↔ a.role = .spec ∧ (a.direction = .universal ∨ a.direction = .backward)) := by
  simp [lStable, lFwdPrem, lBwdConc]

/-- **"…whose public part the other side cannot produce."** The last clause of
    `external_refutes_programs` for the program side, simplification off: given the private
    definitions (third clause), not being a stable model of the program is the same as no stable
    model of the program sharing the extents of the non-private predicates. -/
theorem cannot_produce_public_part (t : ExternalTask) (fuel : Nat) (ΓR : Theory) (hsimp : t.simplify = false)
    (hbyp : t.bypassTightness = false) (hpre : precheck t = none)
    (hR : theoryTranslate t [] fuel t.program = .ok ΓR) (J : Interp) (ρ : Asg)
    (hpriv : ∀ a ∈ rightSide t ΓR, a.role = .assumption → sat J a.formula ρ) :
    (¬ Stable t.program t.userGuide.inputs (restrictTo (ext t.program.preds t.userGuide.inputs)
        (renamedInterp t.clashMap J.pred)) J.fc) ↔
      ¬ ∃ T' : PredI, Stable t.program t.userGuide.inputs T' J.fc ∧
        ∀ (q : String) (ds : List Dom), (⟨q, ds.length⟩ : Pred) ∉ t.progPrivate →
          (T' q ds ↔ restrictTo (ext t.program.preds t.userGuide.inputs)
            (renamedInterp t.clashMap J.pred) q ds) := by
  obtain ⟨Γ, hΓ, hdefs⟩ := rightSide_private_defs t fuel ΓR hsimp hR J ρ hpriv
  have hperr := (precheck_inv t hpre).2.1
  obtain ⟨htR, hrec, hinsR⟩ := C11.programError_none hperr
  have htR' : isTight t.program = true := htR.resolve_right (by simp [hbyp])
  have hsub : ∀ q ∈ t.progPrivate, q ∈ t.program.preds ∧ q ∉ t.userGuide.inputs := by
    intro q hq
    unfold ExternalTask.progPrivate at hq
    simp only [List.mem_filter, decide_eq_true_eq] at hq
    refine ⟨hq.1, fun hin => hq.2 ?_⟩
    unfold UserGuide.publicPreds
    exact mem_ext.mpr (Or.inl hin)
  exact not_congr (stable_iff_some_stable_same_public t.program t.userGuide.inputs t.progPrivate htR' hinsR hrec hsub
    Γ hΓ _ J.fc ρ hdefs)

/-- number of emitted problems for a task (0 when refused) -/
def emitted (t : ExternalTask) (fuel : Nat) : Nat :=
  match externalProblems t fuel with
  | .ok ps => ps.length
  | _ => 0

/-- the task `output: p/1.`, specification program `p(1).`, program `r.` -/
def missingOutputTask (dir : Direction) : ExternalTask :=
  { specification := .inl [⟨.basic ⟨"p", [.pre (.num 1)]⟩, []⟩]
    program := [⟨.basic ⟨"r", []⟩, []⟩]
    userGuide := [.output ⟨"p", 1⟩]
    proofOutline := []
    decomposition := .sequential, direction := dir, rep := .tauStar
    bypassTightness := false, simplify := false, breakEq := false }

/-- The forward direction of `missingOutputTask` emits exactly one problem. The left program derives
    `p(1)`, the right one never derives any `p` atom, so they differ on the output predicate: `p/1`, which
    does not occur in the right program, is completed to false on that side (fix 82641ae; without a
    completed definition the forward direction emitted no problem at all, a vacuous success) and the
    forward direction has `forall V1 (p(V1) <-> #false)` as its conjecture (two problems with eq-break). -/
theorem missing_output_now_refutable : emitted (missingOutputTask .forward) 8 = 1 := by
  decide +kernel

/-- the task with private `q/1` on the left and private `q/1`, `q_p/1` on the right -/
def renameClashTask : ExternalTask :=
  { specification := .inl [⟨.basic ⟨"q", [.pre (.num 1)]⟩, []⟩,
      ⟨.basic ⟨"out", [.var "X"]⟩, [.lit ⟨.pos, ⟨"q", [.var "X"]⟩⟩]⟩]
    program := [⟨.basic ⟨"q", [.pre (.num 1)]⟩, []⟩, ⟨.basic ⟨"q_p", [.pre (.num 2)]⟩, []⟩,
      ⟨.basic ⟨"out", [.var "X"]⟩, [.lit ⟨.pos, ⟨"q", [.var "X"]⟩⟩]⟩]
    userGuide := [.output ⟨"out", 1⟩]
    proofOutline := []
    decomposition := .sequential, direction := .backward, rep := .tauStar
    bypassTightness := false, simplify := false, breakEq := false }

/-- names of the predicates defined by the axioms of the first backward problem -/
def definedInFirstProblem (t : ExternalTask) : List String :=
  match externalProblems t 8 with
  | .ok (p :: _) => p.axioms.filterMap fun a => (headPredicate a.formula).map (·.symbol)
  | _ => []

/-- The axioms of the first backward problem of `renameClashTask` define `q_p` once and `q_p1` once: the
    right program's private `q/1` (renamed because the left side has a private `q/1` too) gets the free
    name `q_p1/1` (fix 06d5e1b), not the name of the program's own private `q_p/1` - two completed
    definitions of `q_p` (`q_p(V) <-> V = 1` and `q_p(V) <-> V = 2`) would be contradictory premises. -/
theorem rename_clash_now_separated :
    (definedInFirstProblem renameClashTask).count "q_p" = 1 ∧
    (definedInFirstProblem renameClashTask).count "q_p1" = 1 := by decide +kernel

/-- **The names chosen for clashing private predicates are free**: none is a predicate of the task
    (public or private on either side), no two renamed predicates share a name, and exactly the
    private predicates common to both sides are renamed. -/
theorem private_renaming_fresh (t : ExternalTask) :
    (∀ x ∈ t.clashMap, renamedPred x.1 x.2 ∉ t.occupied) ∧
    (t.clashMap.Pairwise fun x y => renamedPred x.1 x.2 ≠ renamedPred y.1 y.2) ∧
    t.clashMap.map (·.1) = t.specPrivate.filter (· ∈ t.progPrivate) :=
  ⟨clashMap_fresh t, clashMap_injective t, clashMap_keys t⟩

/-- **One interpretation carries both readings**: extents `TL` for the specification side and `TR`
    for the program side that agree on the public predicates are both read off one family `T` of
    extents - `T` itself on the specification side's vocabulary, `T` through the renaming
    (`renamedInterp`, the reading used in `ProducesR`) on the program side's. So the refutation
    conditions of `external_refutes_programs` really speak about independent private extents of the two
    sides. -/
theorem one_interpretation_carries_both_readings (t : ExternalTask) (TL TR : PredI)
    (hagree : ∀ (q : String) (a : List Dom), (⟨q, a.length⟩ : Pred) ∈ t.userGuide.publicPreds → (TL q a ↔ TR q a)) :
    ∃ T : PredI,
      (∀ (q : String) (a : List Dom), (⟨q, a.length⟩ : Pred) ∈ ext t.userGuide.publicPreds t.specPrivate →
        (T q a ↔ TL q a)) ∧
      (∀ (q : String) (a : List Dom), (⟨q, a.length⟩ : Pred) ∈ ext t.userGuide.publicPreds t.progPrivate →
        (renamedInterp t.clashMap T q a ↔ TR q a)) :=
  joint_reading t TL TR hagree

/-- **Private extents always exist**: without private recursion (which the task checks), whatever
    the extents of the other predicates, the private predicates have extents that satisfy all their
    completed definitions (and by `private_extents_unique` exactly one such family on the program's
    vocabulary). So the private definitions that an emitted problem takes as axioms never make it
    vacuous. -/
theorem private_definitions_satisfiable (P : Asp.Program) (priv : List Pred)
    (hrec : hasPrivateRecursion P priv = false) (T0 : PredI) (fc : FcI) :
    ∃ T : PredI,
      (∀ (q : String) (ds : List Dom), (⟨q, ds.length⟩ : Pred) ∉ priv → (T q ds ↔ T0 q ds)) ∧
      ∀ q ∈ priv, DefHolds P T fc q.symbol q.arity :=
  private_extents_exist P priv hrec T0 fc

/-- **Simplification never changes what a formula of a completed theory is to `control_translate`**:
    a completed definition keeps its head predicate (so it stays the definition of that public or private
    predicate), and a constraint - whose body has no implication or equivalence - never acquires one.
    Without this a private definition could silently become a conjecture, or a constraint an assumption,
    when simplification is on. -/
theorem definitions_keep_their_role_under_simplification (P : Asp.Program) (ins : List Pred)
    (hp : globalsPanic P = false) (Γ : Theory) (hΓ : completion (tauStar P) ins = some Γ)
    (F : Formula) (hF : F ∈ Γ) (fuel : Nat) :
    headPredicate (simplifyWith .classic .fixpoint fuel F).1 = headPredicate F := by
  rcases completion_shapes P ins Γ hΓ F hF with ⟨X, hX, rfl⟩ | ⟨A, fs, rfl⟩
  · rw [headPredicate_pos _ (pos_simplify_constraint X hX fuel)]
    unfold Formula.universalClosure
    rw [headPredicate_quantify]
    rfl
  · rw [headPredicate_simplify_completeDefinition, headPredicate_completeDefinition]

/-- **The conclusion of C02 for every accepted program-vs-program task - the whole statement, no side
    condition.** Placeholders of any sort, simplification on or off, any decomposition and eq-break setting,
    proof outlines with lemmas, inductive lemmas and definitions; only tightness must not be bypassed.
    If NO emitted problem - outline problems and final problems - has a countermodel (in particular if
    every emitted problem is a theorem), then in each requested direction every stable model of one
    program, for input facts and constants that satisfy the user-guide assumptions, has the same public
    part (extents of the input and output predicates) as some stable model of the other program.
    (With an outline only this direction can hold: a false lemma has a countermodel although the programs
    are equivalent; without an outline `external_refutes_programs` gives the converse.) -/
theorem every_accepted_program_task_sound (t : ExternalTask) (PL : Asp.Program)
    (hspec : t.specification = .inl PL) (hbyp : t.bypassTightness = false)
    (fuel : Nat) (ps : List Problem) (h : externalProblems t fuel = .ok ps)
    (hvalid : ∀ P ∈ ps, ∀ J ρ, ¬ Refutes J ρ P) :
    ((t.direction = .universal ∨ t.direction = .forward) →
      ∀ (TL : PredI) (fc : FcI) (ρ : Asg),
        (∀ a ∈ t.userGuide.formulas, a.role = .assumption → sat ⟨TL, fc⟩ (a.formula.replacePlaceholders t.phMap) ρ) →
        Stable (PL.substSym (phNu t.phMap fc)) t.userGuide.inputs TL fc →
        ∃ TR : PredI, Stable (t.program.substSym (phNu t.phMap fc)) t.userGuide.inputs TR fc ∧
          ∀ (q : String) (ds : List Dom), (⟨q, ds.length⟩ : Pred) ∈ t.userGuide.publicPreds → (TR q ds ↔ TL q ds)) ∧
    ((t.direction = .universal ∨ t.direction = .backward) →
      ∀ (TR : PredI) (fc : FcI) (ρ : Asg),
        (∀ a ∈ t.userGuide.formulas, a.role = .assumption → sat ⟨TR, fc⟩ (a.formula.replacePlaceholders t.phMap) ρ) →
        Stable (t.program.substSym (phNu t.phMap fc)) t.userGuide.inputs TR fc →
        ∃ TL : PredI, Stable (PL.substSym (phNu t.phMap fc)) t.userGuide.inputs TL fc ∧
          ∀ (q : String) (ds : List Dom), (⟨q, ds.length⟩ : Pred) ∈ t.userGuide.publicPreds → (TL q ds ↔ TR q ds)) := by
  have hpre : precheck t = none := (Outline.externalProblems_outline t fuel ps h).1
  obtain ⟨left, ΓR, hleft, hR, himp⟩ := Outline.external_outline_sound_valid t hbyp fuel ps h
  simp only [hspec] at hleft
  obtain ⟨ΓL, hL, rfl⟩ := hleft
  have hsO := himp hvalid
  have hstL := leftSide_stable_ph t PL hspec hbyp hpre fuel ΓL hL
  refine ⟨fun hdir TL fc ρ hug hstL' => ?_, fun hdir TR fc ρ hug hstR => ?_⟩
  · -- any reading of `TL` is produced by the specification program, so its whole side is true
    refine forward_of_no_witness t hpre fuel _ ΓR hR hdir hsO TL fc ρ hug fun T hTL a ha _ => ?_
    rw [specPrivate_programs t PL hspec] at hTL
    exact (hstL ⟨T, fc⟩ ρ).mpr (produces_of_stable t (precheck_inv t hpre).1 PL _ T TL fc hstL' hTL) a ha
  · obtain ⟨_, hrecL, _⟩ := C11.programError_none (precheck_programs t PL hspec hpre).2
    have hpubpriv : ∀ q, q ∈ t.userGuide.publicPreds → q ∉ t.specPrivate := by
      intro q hq hp
      rw [specPrivate_programs t PL hspec] at hp
      exact of_decide_eq_true (List.mem_filter.mp hp).2 hq
    -- private extents of the specification program for the public part of `TR`, and one family for both sides
    obtain ⟨TL0, hTL0agree, hTL0def⟩ := private_extents_exist (PL.substSym (phNu t.phMap fc)) t.specPrivate
      (by rw [hasPrivateRecursion_substSym]; exact hrecL) TR fc
    obtain ⟨T, hTL, hTR⟩ := joint_reading t TL0 TR (fun q a hq => hTL0agree q a (hpubpriv _ hq))
    have hTpub : ∀ (q : String) (ds : List Dom), (⟨q, ds.length⟩ : Pred) ∈ t.userGuide.publicPreds → (T q ds ↔ TR q ds) :=
      fun q ds hq => (hTL q ds (mem_ext.mpr (Or.inl hq))).trans (hTL0agree q ds (hpubpriv _ hq))
    rw [specPrivate_programs t PL hspec] at hTL hTL0def
    have hass : ∀ a ∈ leftSide t ΓL, a.role = .assumption → sat ⟨T, fc⟩ a.formula ρ :=
      side_assumptions_of_extents t t.phMap fuel PL ΓL hL T TL0 fc ρ hTL0def hTL
    have hconc := backward_of_no_witness t hbyp hpre fuel (leftSide t ΓL) ΓR hR hdir hsO T TR fc ρ hTR hstR
      (ugAss_congr t hpre T TR fc ρ hTpub hug)
      fun a ha hs => hass a ha (of_decide_eq_true (Bool.and_eq_true_iff.mp hs).1)
    -- so the whole side of the specification program is true: it produces `T`
    have hPL := (hstL ⟨T, fc⟩ ρ).mp fun a ha => by
      obtain ⟨hd, hr | hr⟩ := ((controlTranslate_spec _ ΓL).1 a ha).2
      · exact hconc a ha (by simp [lBwdConc, hd, hr])
      · exact hass a ha hr
    exact ⟨_, hPL.1, public_of_produces t PL T TR hPL.2 hTpub⟩


/-- **The conclusion of C02 for every accepted specification-vs-program task, no side condition.** If no
    emitted problem has a countermodel, then
    * backward: every stable model `TR` of the program, together with any extents `TL` on the
      specification's vocabulary that agree with it on the public predicates and satisfy the user-guide
      assumptions and the specification's universal assumptions, satisfies every universal or backward
      `spec` formula - the program meets the specification;
    * forward: every `TL` that satisfies the user-guide assumptions, the specification's assumptions and
      its universal or forward `spec` formulas has the public part of some stable model of the program -
      the specification admits only behaviours of the program. -/
theorem every_accepted_specification_task_sound (t : ExternalTask) (S : Specification)
    (hspec : t.specification = .inr S) (hbyp : t.bypassTightness = false)
    (fuel : Nat) (ps : List Problem) (h : externalProblems t fuel = .ok ps)
    (hvalid : ∀ P ∈ ps, ∀ J ρ, ¬ Refutes J ρ P) :
    ((t.direction = .universal ∨ t.direction = .backward) →
      ∀ (TL TR : PredI) (fc : FcI) (ρ : Asg),
        (∀ (q : String) (ds : List Dom), (⟨q, ds.length⟩ : Pred) ∈ t.userGuide.publicPreds → (TL q ds ↔ TR q ds)) →
        Stable (t.program.substSym (phNu t.phMap fc)) t.userGuide.inputs TR fc →
        (∀ a ∈ t.userGuide.formulas, a.role = .assumption → sat ⟨TL, fc⟩ (a.formula.replacePlaceholders t.phMap) ρ) →
        (∀ a ∈ S, lStable a = true → sat ⟨TL, fc⟩ (a.formula.replacePlaceholders t.phMap) ρ) →
        ∀ a ∈ S, lBwdConc a = true → sat ⟨TL, fc⟩ (a.formula.replacePlaceholders t.phMap) ρ) ∧
    ((t.direction = .universal ∨ t.direction = .forward) →
      ∀ (TL : PredI) (fc : FcI) (ρ : Asg),
        (∀ a ∈ t.userGuide.formulas, a.role = .assumption → sat ⟨TL, fc⟩ (a.formula.replacePlaceholders t.phMap) ρ) →
        (∀ a ∈ S, lStable a = true → sat ⟨TL, fc⟩ (a.formula.replacePlaceholders t.phMap) ρ) →
        (∀ a ∈ S, lFwdPrem a = true → sat ⟨TL, fc⟩ (a.formula.replacePlaceholders t.phMap) ρ) →
        ∃ TR : PredI, Stable (t.program.substSym (phNu t.phMap fc)) t.userGuide.inputs TR fc ∧
          ∀ (q : String) (ds : List Dom), (⟨q, ds.length⟩ : Pred) ∈ t.userGuide.publicPreds → (TR q ds ↔ TL q ds)) := by
  have hpre : precheck t = none := (Outline.externalProblems_outline t fuel ps h).1
  obtain ⟨left, ΓR, hleft, hR, himp⟩ := Outline.external_outline_sound_valid t hbyp fuel ps h
  simp only [hspec] at hleft
  subst hleft
  have hsO := himp hvalid
  refine ⟨fun hdir TL TR fc ρ hagree hstR hug hstab a0 ha0 hconc => ?_, fun hdir TL fc ρ hug hstab hprem => ?_⟩
  · -- one family of extents carries `TL` and, through the renaming, `TR`
    obtain ⟨T, hTL, hTR⟩ := joint_reading t TL TR hagree
    have hSsat := spec_sat_congr t S hspec T TL fc ρ hTL
    refine (hSsat a0 ha0).mp (backward_of_no_witness t hbyp hpre fuel _ ΓR hR hdir hsO T TR fc ρ hTR hstR
      (ugAss_congr t hpre T TL fc ρ (fun q ds hq => hTL q ds (mem_ext.mpr (Or.inl hq))) hug)
      (List.forall_mem_map.mpr fun a ha hs => (hSsat a ha).mpr (hstab a ha hs)) _ (List.mem_map_of_mem ha0) hconc)
  · exact forward_of_no_witness t hpre fuel _ ΓR hR hdir hsO TL fc ρ hug fun T hTL =>
      List.forall_mem_map.mpr fun a ha hs =>
        (spec_sat_congr t S hspec T TL fc ρ hTL a ha).mpr (hs.elim (hstab a ha) (hprem a ha))


/-- **"Hence if every emitted problem is a theorem the claimed relation holds"** - the property's
    conclusion stated about the two programs alone, for a task without a proof outline: this is
    `every_accepted_program_task_sound`, and neither `hpo` nor `hnc` (the decidable side condition that
    `rename_conflicting_symbols` is the identity) is used. Programs with placeholders are read with
    the values `fc` gives to the placeholders (`p.substSym (phNu t.phMap fc)`, `placeholder_reading`).
    Rests on the refutation conditions (`assembled_semref`), `private_definitions_satisfiable`,
    `one_interpretation_carries_both_readings` (which needs the private renaming to free names) and, for
    simplified theories, `definitions_keep_their_role_under_simplification`. -/
theorem valid_problems_imply_external_equivalence (t : ExternalTask) (PL : Asp.Program)
    (hspec : t.specification = .inl PL) (hpo : t.proofOutline = [])
    (hbyp : t.bypassTightness = false)
    (fuel : Nat) (ps : List Problem) (h : externalProblems t fuel = .ok ps)
    (hnc : ∀ ΓL ΓR, theoryTranslate t t.phMap fuel PL = .ok ΓL → theoryTranslate t t.phMap fuel t.program = .ok ΓR →
      NoSymbolConflictGen (assembledGen t (leftSide t ΓL) t.ugAss ΓR))
    (hvalid : ∀ (J : Interp) (ρ : Asg), ¬ ∃ P ∈ ps, Refutes J ρ P) :
    ((t.direction = .universal ∨ t.direction = .forward) →
      ∀ (TL : PredI) (fc : FcI) (ρ : Asg),
        (∀ a ∈ t.userGuide.formulas, a.role = .assumption → sat ⟨TL, fc⟩ (a.formula.replacePlaceholders t.phMap) ρ) →
        Stable (PL.substSym (phNu t.phMap fc)) t.userGuide.inputs TL fc →
        ∃ TR : PredI, Stable (t.program.substSym (phNu t.phMap fc)) t.userGuide.inputs TR fc ∧
          ∀ (q : String) (ds : List Dom), (⟨q, ds.length⟩ : Pred) ∈ t.userGuide.publicPreds → (TR q ds ↔ TL q ds)) ∧
    ((t.direction = .universal ∨ t.direction = .backward) →
      ∀ (TR : PredI) (fc : FcI) (ρ : Asg),
        (∀ a ∈ t.userGuide.formulas, a.role = .assumption → sat ⟨TR, fc⟩ (a.formula.replacePlaceholders t.phMap) ρ) →
        Stable (t.program.substSym (phNu t.phMap fc)) t.userGuide.inputs TR fc →
        ∃ TL : PredI, Stable (PL.substSym (phNu t.phMap fc)) t.userGuide.inputs TL fc ∧
          ∀ (q : String) (ds : List Dom), (⟨q, ds.length⟩ : Pred) ∈ t.userGuide.publicPreds → (TL q ds ↔ TR q ds)) :=
  every_accepted_program_task_sound t PL hspec hbyp fuel ps h fun P hP J ρ hr => hvalid J ρ ⟨P, hP, hr⟩

/-- **The same conclusion for a specification**: `every_accepted_specification_task_sound` for a task
    without a proof outline; neither `hpo` nor `hnc` is used. -/
theorem valid_problems_imply_specification_met (t : ExternalTask) (S : Specification)
    (hspec : t.specification = .inr S) (hpo : t.proofOutline = [])
    (hbyp : t.bypassTightness = false)
    (fuel : Nat) (ps : List Problem) (h : externalProblems t fuel = .ok ps)
    (hnc : ∀ ΓR, theoryTranslate t t.phMap fuel t.program = .ok ΓR →
      NoSymbolConflictGen (assembledGen t (S.map (SAnn.replacePlaceholders t.phMap)) t.ugAss ΓR))
    (hvalid : ∀ (J : Interp) (ρ : Asg), ¬ ∃ P ∈ ps, Refutes J ρ P) :
    ((t.direction = .universal ∨ t.direction = .backward) →
      ∀ (TL TR : PredI) (fc : FcI) (ρ : Asg),
        (∀ (q : String) (ds : List Dom), (⟨q, ds.length⟩ : Pred) ∈ t.userGuide.publicPreds → (TL q ds ↔ TR q ds)) →
        Stable (t.program.substSym (phNu t.phMap fc)) t.userGuide.inputs TR fc →
        (∀ a ∈ t.userGuide.formulas, a.role = .assumption → sat ⟨TL, fc⟩ (a.formula.replacePlaceholders t.phMap) ρ) →
        (∀ a ∈ S, lStable a = true → sat ⟨TL, fc⟩ (a.formula.replacePlaceholders t.phMap) ρ) →
        ∀ a ∈ S, lBwdConc a = true → sat ⟨TL, fc⟩ (a.formula.replacePlaceholders t.phMap) ρ) ∧
    ((t.direction = .universal ∨ t.direction = .forward) →
      ∀ (TL : PredI) (fc : FcI) (ρ : Asg),
        (∀ a ∈ t.userGuide.formulas, a.role = .assumption → sat ⟨TL, fc⟩ (a.formula.replacePlaceholders t.phMap) ρ) →
        (∀ a ∈ S, lStable a = true → sat ⟨TL, fc⟩ (a.formula.replacePlaceholders t.phMap) ρ) →
        (∀ a ∈ S, lFwdPrem a = true → sat ⟨TL, fc⟩ (a.formula.replacePlaceholders t.phMap) ρ) →
        ∃ TR : PredI, Stable (t.program.substSym (phNu t.phMap fc)) t.userGuide.inputs TR fc ∧
          ∀ (q : String) (ds : List Dom), (⟨q, ds.length⟩ : Pred) ∈ t.userGuide.publicPreds → (TR q ds ↔ TL q ds)) :=
  every_accepted_specification_task_sound t S hspec hbyp fuel ps h fun P hP J ρ hr => hvalid J ρ ⟨P, hP, hr⟩

/-- **C02, soundness for every accepted task, with NO side condition** (placeholders, simplification and
    proof outline included): if none of the emitted problems has a countermodel, no interpretation that
    satisfies the user-guide assumptions is a difference witness. `rename_conflicting_symbols` needs no
    hypothesis: it renames propositional predicates to free names (fix 611037e), so an emitted
    problem has a countermodel as soon as the problem before the renaming has one (`valid_family`). -/
theorem external_sound_no_side_condition (t : ExternalTask) (hbyp : t.bypassTightness = false) (fuel : Nat)
    (ps : List Problem) (h : externalProblems t fuel = .ok ps) :
    ∃ (left : List SAnn) (ΓR : Theory),
      (match t.specification with
        | .inl PL => ∃ ΓL, theoryTranslate t t.phMap fuel PL = .ok ΓL ∧ left = controlTranslate t.userGuide.publicPreds ΓL
        | .inr S => left = S.map (SAnn.replacePlaceholders t.phMap)) ∧
      theoryTranslate t t.phMap fuel t.program = .ok ΓR ∧
      ((∀ P ∈ ps, ∀ J ρ, ¬ Refutes J ρ P) →
        ∀ (J : Interp) (ρ : Asg),
          ¬ ((∀ a ∈ t.ugAss, sat J a.formula ρ) ∧
            (∀ a ∈ left, lStable a = true → sat J a.formula ρ) ∧
            (∀ a ∈ rightSide t ΓR, a.role = .assumption → sat J a.formula ρ) ∧
            (((t.direction = .universal ∨ t.direction = .forward) ∧
                (∀ a ∈ left, lFwdPrem a = true → sat J a.formula ρ) ∧ ¬ ProducesR t J) ∨
             ((t.direction = .universal ∨ t.direction = .backward) ∧
                ProducesR t J ∧ ∃ a ∈ left, lBwdConc a = true ∧ ¬ sat J a.formula ρ)))) :=
  Outline.external_outline_sound_valid t hbyp fuel ps h

/-- an emitted problem (after `rename_conflicting_symbols`) has a countermodel as soon as the parts it was
    assembled from can be refuted: validity of what anthem emits implies validity of what it means -/
theorem renaming_is_irrelevant_for_validity (name : String) (parts : List (List AnnF)) (d : Decomposition)
    (hvalid : ∀ P ∈ (mkProblem name parts).decompose d, ∀ J ρ, ¬ Refutes J ρ P) :
    ∀ (J : Interp) (ρ : Asg), ¬ SemRef J ρ parts :=
  valid_family name parts d hvalid

/-- Non-vacuity of the hypotheses of `valid_problems_imply_external_equivalence`: the task that compares
    `p(X) :- q(X).` with itself (input `q/1`, `p/1` private on both sides, no output) is accepted and
    emits no problem at all, so "no emitted problem is refuted" holds, and the theorem applies:
    every stable model of the program has the public part of a stable model of the program. -/
def sameTask : ExternalTask :=
  { specification := .inl [⟨.basic ⟨"p", [.var "X"]⟩, [.lit ⟨.pos, ⟨"q", [.var "X"]⟩⟩]⟩]
    program := [⟨.basic ⟨"p", [.var "X"]⟩, [.lit ⟨.pos, ⟨"q", [.var "X"]⟩⟩]⟩]
    userGuide := [.input ⟨"q", 1⟩]
    proofOutline := []
    decomposition := .sequential, direction := .universal, rep := .tauStar
    bypassTightness := false, simplify := false, breakEq := false }

theorem sameTask_emits_nothing :
    (match externalProblems sameTask 8 with | .ok ps => ps.length == 0 | _ => false) = true := by decide +kernel

example : (match externalProblems sameTask 8 with | .ok ps => ps.length == 0 | _ => false) = true :=
  sameTask_emits_nothing

example (ps : List Problem) (h : externalProblems sameTask 8 = .ok ps) :
    ∀ (J : Interp) (ρ : Asg), ¬ ∃ P ∈ ps, Refutes J ρ P := by
  have hd := sameTask_emits_nothing
  rw [h] at hd
  have : ps = [] := List.eq_nil_of_length_eq_zero (by simpa using hd)
  subst this
  intro J ρ ⟨P, hP, _⟩
  cases hP

/-- Whatever the decomposition, the problems of the final family of a direction are refuted by the
    interpretations that satisfy all premises and falsify some conclusion (C19 applied to the
    assembled problem). -/
theorem final_family_refutes (J : Interp) (ρ : Asg) (name : String) (parts : List (List AnnF))
    (d : Decomposition) :
    (∃ P ∈ (mkProblem name parts).decompose d, Refutes J ρ P) ↔
      (∀ a ∈ (mkProblem name parts).axioms, sat J a.formula ρ) ∧
        ∃ c ∈ (mkProblem name parts).conjectures, ¬ sat J c.formula ρ := by
  cases d
  · exact C19.independent_refutes J ρ _
  · exact C19.sequential_refutes J ρ _

/-- Non-vacuity of the hypotheses of `external_refutes_programs`: a concrete task (input `q/1`,
    output `p/1`, `p(X) :- q(X).` against `p(X) :- q(X), not not q(X).`) is accepted, yields two
    problems, and `rename_conflicting_symbols` leaves its assembled problems unchanged. -/
def exampleTask : ExternalTask :=
  { specification := .inl [⟨.basic ⟨"p", [.var "X"]⟩, [.lit ⟨.pos, ⟨"q", [.var "X"]⟩⟩]⟩]
    program := [⟨.basic ⟨"p", [.var "X"]⟩, [.lit ⟨.pos, ⟨"q", [.var "X"]⟩⟩, .lit ⟨.negneg, ⟨"q", [.var "X"]⟩⟩]⟩]
    userGuide := [.input ⟨"q", 1⟩, .output ⟨"p", 1⟩]
    proofOutline := []
    decomposition := .sequential, direction := .universal, rep := .tauStar
    bypassTightness := false, simplify := false, breakEq := false }

example : (match externalProblems exampleTask 8 with | .ok ps => ps.length | _ => 0) = 2 := by decide +kernel

example : ∀ ΓL ΓR, theoryTranslate exampleTask [] 8 [⟨.basic ⟨"p", [.var "X"]⟩, [.lit ⟨.pos, ⟨"q", [.var "X"]⟩⟩]⟩] = .ok ΓL →
    theoryTranslate exampleTask [] 8 exampleTask.program = .ok ΓR → NoSymbolConflictExt exampleTask ΓL ΓR := by
  intro ΓL ΓR hL hR
  rw [Outcome.get_of_eq_ok hL, Outcome.get_of_eq_ok hR]
  exact rename_id_pair (by decide +kernel)

/-- Non-vacuity of `external_refutes_specification`: the specification
    `assumption: forall X (q(X) -> X > 0). spec(forward): forall X (p(X) -> q(X)). spec: forall X (q(X) -> p(X)).`
    against `p(X) :- q(X).` (input `q/1`, output `p/1`) is accepted and yields two problems (one per
    direction); `rename_conflicting_symbols` leaves the assembled problems unchanged. -/
def exampleSpecTask : ExternalTask :=
  { specification := .inr [
      ⟨.assumption, .universal, "", .quant .all [⟨"X", .general⟩] (.bin .imp (.atomic (.atom ⟨"q", [.var "X"]⟩))
        (.atomic (.cmp (.var "X") [⟨.gt, .int (.num 0)⟩])))⟩,
      ⟨.spec, .forward, "", .quant .all [⟨"X", .general⟩] (.bin .imp (.atomic (.atom ⟨"p", [.var "X"]⟩)) (.atomic (.atom ⟨"q", [.var "X"]⟩)))⟩,
      ⟨.spec, .universal, "", .quant .all [⟨"X", .general⟩] (.bin .imp (.atomic (.atom ⟨"q", [.var "X"]⟩)) (.atomic (.atom ⟨"p", [.var "X"]⟩)))⟩]
    program := [⟨.basic ⟨"p", [.var "X"]⟩, [.lit ⟨.pos, ⟨"q", [.var "X"]⟩⟩]⟩]
    userGuide := [.input ⟨"q", 1⟩, .output ⟨"p", 1⟩]
    proofOutline := []
    decomposition := .sequential, direction := .universal, rep := .tauStar
    bypassTightness := false, simplify := false, breakEq := false }

example : (match externalProblems exampleSpecTask 8 with | .ok ps => ps.length | _ => 0) = 2 := by decide +kernel

example : ∀ ΓR, theoryTranslate exampleSpecTask [] 8 exampleSpecTask.program = .ok ΓR →
    NoSymbolConflictSpec exampleSpecTask
      (match exampleSpecTask.specification with | .inr S => S | .inl _ => []) ΓR := by
  intro ΓR hR
  rw [Outcome.get_of_eq_ok hR]
  exact rename_id_pair (by decide +kernel)

/-- Non-vacuity of the placeholder theorems: `input: n -> integer. input: q/1. output: p/1.` with
    `p(X) :- q(X), X < n.` against `p(X) :- q(X), not X >= n.` is accepted and yields two problems. -/
def examplePlaceholderTask : ExternalTask :=
  { specification := .inl [⟨.basic ⟨"p", [.var "X"]⟩, [.lit ⟨.pos, ⟨"q", [.var "X"]⟩⟩, .cmp .lt (.var "X") (.pre (.sym "n"))]⟩]
    program := [⟨.basic ⟨"p", [.var "X"]⟩, [.lit ⟨.pos, ⟨"q", [.var "X"]⟩⟩, .cmp .lt (.var "X") (.pre (.sym "n")),
      .lit ⟨.negneg, ⟨"q", [.var "X"]⟩⟩]⟩]
    userGuide := [.placeholder "n" .integer, .input ⟨"q", 1⟩, .output ⟨"p", 1⟩]
    proofOutline := []
    decomposition := .sequential, direction := .universal, rep := .tauStar
    bypassTightness := false, simplify := false, breakEq := false }

example : (match externalProblems examplePlaceholderTask 8 with | .ok ps => ps.length | _ => 0) = 2 := by decide +kernel

example : examplePlaceholderTask.phMap = [("n", .integer)] := by decide +kernel

end Anthem.C02
