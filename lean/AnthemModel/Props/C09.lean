/-
  C09 — every emitted problem is well-formed, well-typed, self-contained TFF.
  Proved here: (1) every problem produced by either decomposition contains exactly one conjecture;
  (2) `problem_well_typed`: every closed formula of a problem, as a TFF tree (C06), type-checks
  against the problem's own declarations (predicates at their arity over `general`, symbolic
  constants, placeholders at their sort, `$int` built-ins), every variable bound by a typed
  quantifier; the declarations are exactly what occurs, by construction; (3) formula names are
  pairwise distinct after `create_unique_formula_names` and in every decomposed problem;
  (4) `hygienic_iff`: the model-side hygiene analysis is exact - it is empty iff no declared
  identifier begins with `_`, declared identifiers are pairwise distinct *as mangled strings*,
  none is a preamble identifier, and formula names are distinct. What is NOT provable on the
  unchanged tree is that the analysis is always empty: three identifier classes make the mangled
  output ill-typed (known findings, with counterexamples below).
-/
import AnthemModel.Proofs.Decompose
import AnthemModel.Model.TptpFmt
import AnthemModel.Proofs.TffTyping
import AnthemModel.Proofs.NaturalFresh
namespace Anthem.C09

theorem conjectures_ax_conj (name : String) (ax : List AnnF) (c : AnnF)
    (hax : ∀ a ∈ ax, a.role = .axiom) (hc : c.role = .conjecture) :
    (⟨name, ax ++ [c]⟩ : Problem).conjectures = [c] := by
  simp only [Problem.conjectures, List.filter_append]
  rw [List.filter_eq_nil_iff.mpr (fun a ha => by simp [hax a ha])]
  simp [hc]

theorem seqLoop_one_conjecture (name : String) : ∀ (cs : List AnnF) (i : Nat) (acc : List AnnF),
    InitAxioms acc → (∀ c ∈ cs, c.role = .conjecture) →
    ∀ P ∈ seqLoop name i acc cs, P.conjectures.length = 1 := by
  intro cs
  induction cs with
  | nil => intro i acc _ _ P hP; cases hP
  | cons c cs ih =>
    intro i acc hacc hcs P hP
    have hc : c.role = .conjecture := hcs c List.mem_cons_self
    have hroles := setLastAxiom_roles acc hacc
    rcases List.mem_cons.mp hP with rfl | hP
    · rw [conjectures_ax_conj _ _ c hroles hc]; rfl
    · exact ih (i + 1) _ (initAxioms_append _ c hroles)
        (fun x hx => hcs x (List.mem_cons_of_mem _ hx)) P hP

/-- Either decomposition: exactly one conjecture per problem (in the sequential one the earlier
    conjectures have become axioms). -/
theorem one_conjecture (p : Problem) (d : Decomposition) :
    ∀ P ∈ p.decompose d, P.conjectures.length = 1 := by
  cases d with
  | independent =>
    intro P hP
    obtain ⟨⟨i, c⟩, hic, rfl⟩ := List.mem_map.mp hP
    have hc : c ∈ p.conjectures := mem_indexFrom.mpr ⟨i, hic⟩
    exact congrArg List.length
      (conjectures_ax_conj _ _ c (fun a ha => (mem_axioms.mp ha).2) (mem_conjectures.mp hc).2)
  | sequential =>
    exact seqLoop_one_conjecture p.name p.conjectures 0 p.axioms
      (initAxioms_of_all _ (fun _ ha => (mem_axioms.mp ha).2))
      (fun _ hc => (mem_conjectures.mp hc).2)

/-- what `Display for Problem` declares -/
def Problem.sig (p : Problem) : TSig := ⟨p.preds, p.symbols, p.fcs⟩

theorem mem_preds {p : Problem} {q : Pred} : q ∈ p.preds ↔ ∃ a ∈ p.formulas, q ∈ a.formula.preds :=
  mem_foldl_ext_nil (fun a : AnnF => a.formula.preds) p.formulas q

theorem mem_symbols {p : Problem} {s : String} : s ∈ p.symbols ↔ ∃ a ∈ p.formulas, s ∈ a.formula.symbols :=
  mem_foldl_ext_nil (fun a : AnnF => a.formula.symbols) p.formulas s

theorem mem_fcs {p : Problem} {c : FnConst} : c ∈ p.fcs ↔ ∃ a ∈ p.formulas, c ∈ a.formula.fcs :=
  mem_foldl_ext_nil (fun a : AnnF => a.formula.fcs) p.formulas c

/-- the declarations cover everything that occurs (they are computed from the formulas) -/
theorem declared_all (p : Problem) : ∀ a ∈ p.formulas, a.formula.Declared (Problem.sig p) :=
  fun a ha => ⟨fun _ hq => mem_preds.mpr ⟨a, ha, hq⟩, fun _ hs => mem_symbols.mpr ⟨a, ha, hs⟩,
    fun _ hc => mem_fcs.mpr ⟨a, ha, hc⟩⟩

/-- … and nothing else is declared. -/
theorem declared_only (p : Problem) :
    (∀ q ∈ p.preds, ∃ a ∈ p.formulas, q ∈ a.formula.preds) ∧
    (∀ s ∈ p.symbols, ∃ a ∈ p.formulas, s ∈ a.formula.symbols) ∧
    (∀ c ∈ p.fcs, ∃ a ∈ p.formulas, c ∈ a.formula.fcs) :=
  ⟨fun _ => mem_preds.mp, fun _ => mem_symbols.mp, fun _ => mem_fcs.mp⟩

/-- **Well-typedness**: every closed formula of a problem type-checks, as a TFF tree, against the
    problem's declarations, with every variable bound by a typed quantifier. -/
theorem problem_well_typed (p : Problem) (a : AnnF) (ha : a ∈ p.formulas) (hclosed : ∀ v, ¬ a.formula.FV v) :
    (tr a.formula).WT (Problem.sig p) (fun _ => False) :=
  tr_WT (Problem.sig p) a.formula _ (fun v hv => hclosed v hv) (declared_all p a ha)

/-- the index in a name `<pre><i>_<name>` is determined by the name: digits contain no `_` -/
theorem name_index {pre : String} {i j : Nat} {n m : String}
    (e : pre ++ toString i ++ "_" ++ n = pre ++ toString j ++ "_" ++ m) : i = j := by
  have e' := congrArg String.toList e
  simp only [String.toList_append, List.append_assoc, String.reduceToList, List.cons_append,
    List.nil_append] at e'
  have := split_at_sep (digits_no_underscore i) (digits_no_underscore j) (List.append_cancel_left e')
  exact Nat.repr_injective (String.ext_iff.mpr (by simpa using this))

theorem le_of_mem_indexFrom {α} {l : List α} {k : Nat} {x : Nat × α} (h : x ∈ indexFrom k l) : k ≤ x.1 := by
  induction l generalizing k with
  | nil => cases h
  | cons a l ih =>
    rcases List.mem_cons.mp h with rfl | h
    · exact Nat.le_refl _
    · exact Nat.le_of_succ_le (ih h)

theorem indexFrom_pairwise {α} (l : List α) (k : Nat) : (indexFrom k l).Pairwise (fun x y => x.1 ≠ y.1) := by
  induction l generalizing k with
  | nil => exact .nil
  | cons a l ih => exact .cons (fun _ hy => Nat.ne_of_lt (le_of_mem_indexFrom hy)) (ih (k + 1))

theorem uniqueNames_nodup (p : Problem) : (p.uniqueNames.formulas.map (·.name)).Nodup :=
  List.pairwise_map.mpr (List.pairwise_map.mpr
    ((indexFrom_pairwise p.formulas 0).imp fun h e => h (name_index e)))

theorem setLastAxiom_names (l : List AnnF) : (setLastAxiom l).map (·.name) = l.map (·.name) := by
  induction l with
  | nil => rfl
  | cons a l ih =>
    cases l with
    | nil => rfl
    | cons b rest => simp only [setLastAxiom, List.map_cons, List.cons.injEq, true_and]; exact ih

theorem seqLoop_names (name : String) : ∀ (cs : List AnnF) (i : Nat) (acc : List AnnF),
    (acc.map (·.name) ++ cs.map (·.name)).Nodup →
    ∀ P ∈ seqLoop name i acc cs, (P.formulas.map (·.name)).Nodup := by
  intro cs
  induction cs with
  | nil => intro i acc _ P hP; simp [seqLoop] at hP
  | cons c cs ih =>
    intro i acc hnd P hP
    simp only [seqLoop, List.mem_cons] at hP
    have hacc' : ((setLastAxiom acc ++ [c]).map (·.name) ++ cs.map (·.name)).Nodup := by
      rw [List.map_append, setLastAxiom_names, List.append_assoc]; exact hnd
    rcases hP with rfl | hP
    · exact (List.nodup_append.mp hacc').1
    · exact ih (i + 1) _ hacc' P hP

theorem roles_split_names (p : Problem) (h : (p.formulas.map (·.name)).Nodup) :
    (p.axioms.map (·.name) ++ p.conjectures.map (·.name)).Nodup := by
  have hc : p.conjectures = p.formulas.filter (fun a => !decide (a.role = .axiom)) :=
    List.filter_congr fun a _ => by cases a.role <;> rfl
  rw [← List.map_append, hc, Problem.axioms]
  exact ((List.filter_append_perm _ _).map _).nodup_iff.mpr h

/-- **Formula names are pairwise distinct in every decomposed problem** of a problem whose formula
    names are distinct (as they are after `create_unique_formula_names`). -/
theorem decomposed_names_nodup (p : Problem) (h : (p.formulas.map (·.name)).Nodup) (d : Decomposition) :
    ∀ P ∈ p.decompose d, (P.formulas.map (·.name)).Nodup := by
  have hsplit := roles_split_names p h
  cases d with
  | sequential => exact seqLoop_names p.name p.conjectures 0 p.axioms hsplit
  | independent =>
    intro P hP
    obtain ⟨⟨i, c⟩, hic, rfl⟩ := List.mem_map.mp hP
    have hc := List.mem_map_of_mem (f := (·.name)) (mem_indexFrom.mpr ⟨i, hic⟩)
    rw [List.map_append]
    exact ((List.singleton_sublist.mpr hc).append_left _).nodup hsplit

theorem dupNames_nil_iff (l : List String) : dupNames l = [] ↔ l.Nodup := by
  induction l with
  | nil => exact ⟨fun _ => List.nodup_nil, fun _ => rfl⟩
  | cons x xs ih =>
    rw [dupNames, List.nodup_cons]
    split
    · rename_i hm
      exact ⟨fun h => absurd h (List.ne_nil_of_mem (mem_ins.mpr (Or.inr rfl))), fun h => absurd hm h.1⟩
    · rename_i hm
      rw [ih]; exact (and_iff_right hm).symm

/-- **Exactness of the hygiene analysis.** -/
theorem hygienic_iff (p : Problem) :
    p.hygieneIssues = [] ↔
      (∀ n ∈ p.preds.map (·.symbol) ++ p.symbols ++ p.fcs.map tptpVar, n.toList.head? ≠ some '_') ∧
      (p.preds.map (·.symbol) ++ p.symbols ++ p.fcs.map tptpVar).Nodup ∧
      (∀ n ∈ p.preds.map (·.symbol) ++ p.symbols ++ p.fcs.map tptpVar, n ∉ preambleNames) ∧
      (p.formulas.map (·.name)).Nodup := by
  rw [Problem.hygieneIssues]
  simp only [List.append_eq_nil_iff, ite_eq_left_iff, ite_eq_right_iff, reduceCtorEq, imp_false,
    Decidable.not_not, List.isEmpty_iff, dupNames_nil_iff, List.filter_eq_nil_iff, List.any_eq_true,
    decide_eq_true_eq, and_assoc, not_exists, not_and, ne_eq]

/-- Counterexample to unconditional well-typedness (model level): a predicate
    used at two arities is declared twice under one name. Known finding. -/
theorem two_arities_declared_twice :
    (Problem.preds ⟨"x", [⟨"a", .axiom, .bin .and (.atomic (.atom ⟨"q", [.var "X"]⟩))
      (.atomic (.atom ⟨"q", [.var "X", .var "Y"]⟩))⟩]⟩).map (·.symbol) = ["q", "q"] := by decide +kernel

/-- Counterexample: the symbol `n_i` and the integer placeholder `n` are both rendered `n_i`. -/
theorem symbol_placeholder_clash :
    tptpS (.sym "n_i") = tptpI (.fc "n") := by decide +kernel

end Anthem.C09
