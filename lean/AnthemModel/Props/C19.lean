/-
  C19 — simplify / eq-break / decomposition flags never change the claim verified.
-/
import AnthemModel.Proofs.Decompose
import AnthemModel.Proofs.Congruence
namespace Anthem.C19

/-- Independent decomposition: some emitted problem is refuted iff all axioms are true and some
    conjecture is false. -/
theorem independent_refutes (J : Interp) (ρ : Asg) (p : Problem) :
    (∃ P ∈ p.decomposeIndependent, Refutes J ρ P) ↔
      (∀ a ∈ p.axioms, sat J a.formula ρ) ∧ ∃ c ∈ p.conjectures, ¬ sat J c.formula ρ :=
  Anthem.independent_refutes J ρ p

/-- Sequential decomposition: the same right-hand side (the least failing conjecture). -/
theorem sequential_refutes (J : Interp) (ρ : Asg) (p : Problem) :
    (∃ P ∈ p.decomposeSequential, Refutes J ρ P) ↔
      (∀ a ∈ p.axioms, sat J a.formula ρ) ∧ ∃ c ∈ p.conjectures, ¬ sat J c.formula ρ :=
  Anthem.sequential_refutes J ρ p

/-- **Decomposition flag.** Both families are refuted by exactly the same interpretations. -/
theorem decomposition_invariant (J : Interp) (ρ : Asg) (p : Problem) (d d' : Decomposition) :
    (∃ P ∈ p.decompose d, Refutes J ρ P) ↔ (∃ P ∈ p.decompose d', Refutes J ρ P) := by
  -- either family is refuted iff all axioms hold and some conjecture fails
  cases d <;> cases d' <;>
    simp only [Problem.decompose, Anthem.independent_refutes, Anthem.sequential_refutes]

/-- **Eq-break flag**, formula level: the broken formulas are jointly equivalent to the original,
    classically and in HT (both worlds); in particular "all true" and "some false" are preserved,
    which is all `Refutes` looks at. -/
theorem break_equiv (I : Interp) (F : Formula) (ρ : Asg) :
    (∀ G ∈ breakEquivalencesFormula F, sat I G ρ) ↔ sat I F ρ :=
  Anthem.break_equiv I F ρ

theorem break_equiv_some_false (I : Interp) (F : Formula) (ρ : Asg) :
    (∃ G ∈ breakEquivalencesFormula F, ¬ sat I G ρ) ↔ ¬ sat I F ρ := by
  rw [← Anthem.break_equiv I F ρ]
  constructor
  · rintro ⟨G, hG, hn⟩ h; exact hn (h G hG)
  · intro h
    by_cases h' : ∃ G ∈ breakEquivalencesFormula F, ¬ sat I G ρ
    · exact h'
    · exact absurd (fun G hG => Classical.not_not.mp fun hn => h' ⟨G, hG, hn⟩) h

theorem break_equiv_ht (M : HTI) (F : Formula) (w : World) (ρ : Asg) :
    (∀ G ∈ breakEquivalencesFormula F, ht M G w ρ) ↔ ht M F w ρ :=
  Anthem.break_equiv_ht M F w ρ

/-- **General invariance principle** used for all three flags: two problems whose axioms are
    jointly equivalent and whose conjectures are "some false"-equivalent have decompositions
    refuted by the same interpretations, whatever decomposition each uses. -/
theorem families_invariant (J : Interp) (ρ : Asg) (p p' : Problem) (d d' : Decomposition)
    (hax : (∀ a ∈ p.axioms, sat J a.formula ρ) ↔ (∀ a ∈ p'.axioms, sat J a.formula ρ))
    (hcj : (∃ c ∈ p.conjectures, ¬ sat J c.formula ρ) ↔ (∃ c ∈ p'.conjectures, ¬ sat J c.formula ρ)) :
    (∃ P ∈ p.decompose d, Refutes J ρ P) ↔ (∃ P ∈ p'.decompose d', Refutes J ρ P) := by
  -- both sides become "all axioms hold and some conjecture fails", of `p` and of `p'`
  cases d <;> cases d' <;>
    simp only [Problem.decompose, Anthem.independent_refutes, Anthem.sequential_refutes, hax, hcj]

/-- **Simplify flag**, formula level: replacing every formula by a classically equivalent one
    changes neither "all axioms true" nor "some conjecture false" (instantiated by C07's
    portfolio theorems). -/
theorem map_equiv_all (J : Interp) (ρ : Asg) (f : Formula → Formula)
    (hf : ∀ F, ClassEquiv (f F) F) (l : List Formula) :
    (∀ F ∈ l.map f, sat J F ρ) ↔ (∀ F ∈ l, sat J F ρ) := by
  simp only [List.mem_map, forall_exists_index, and_imp, forall_apply_eq_imp_iff₂]
  exact forall_congr' fun F => imp_congr_right fun _ => hf F J ρ

/-- Non-vacuity: a two-conjecture problem on which the two decompositions really differ as lists
    of problems (and still agree on refutation by the theorems above). -/
example : (Problem.decomposeSequential ⟨"p", [⟨"a", .axiom, .tru⟩, ⟨"c0", .conjecture, .tru⟩,
      ⟨"c1", .conjecture, .fls⟩]⟩).map (·.formulas.length) = [2, 3] ∧
    (Problem.decomposeIndependent ⟨"p", [⟨"a", .axiom, .tru⟩, ⟨"c0", .conjecture, .tru⟩,
      ⟨"c1", .conjecture, .fls⟩]⟩).map (·.formulas.length) = [2, 2] := by decide +kernel

end Anthem.C19
