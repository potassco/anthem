/-
  User-guide level of the target-language round trip: input / output predicates, placeholder
  declarations, annotated formulas; and the three checked parsers as grammar followed by range test.
-/
import AnthemModel.Proofs.FolSpecRT
namespace Anthem.Fol
open Anthem.Asp (isWs skip skipAux stripPrefix isIdChar isNonzeroDigit SymName NoId StopsAt Solid StartsSolid
  skip_cons_solid skip_of_startsSolid skip_space skip_newline parenLL takeWhile_append_stop toDigits_head_nonzero
  toDigits_all_digit nonzeroDigit_ne_zero)

def arityL (n : Nat) : List Char := Nat.toDigits 10 n

theorem arity_toList (n : Nat) : (toString n).toList = arityL n := by
  simp only [arityL, Nat.toList_repr, toString]

theorem lexArity_digits {c : Char} (r : List Char) (hc : isNonzeroDigit c = true) :
    lexArity (c :: r) = some (Nat.ofDigitChars 10 (c :: r.takeWhile Char.isDigit) 0, r.dropWhile Char.isDigit) := by
  unfold lexArity
  split
  · rename_i heq; exact absurd (List.cons.inj heq).1 (nonzeroDigit_ne_zero hc).1
  · rename_i heq; cases heq; simp only [hc, if_true]
  · rename_i heq; cases heq

theorem lexArity_print (n : Nat) (rest : List Char) (hr : StopsAt Char.isDigit rest) :
    lexArity (arityL n ++ rest) = some (n, rest) := by
  cases n with
  | zero => rfl
  | succ m =>
    obtain ⟨c, ds, hcd, hc, hval, hdrop⟩ := Asp.lexInteger_toDigits (m + 1) (Nat.succ_pos m) rest hr
    rw [arityL, hcd, List.cons_append, lexArity_digits _ hc, hval, hdrop]

theorem arityL_startsSolid (n : Nat) : StartsSolid (arityL n) := by
  unfold arityL
  cases h : Nat.toDigits 10 n with
  | nil => exact absurd h Nat.toDigits_ne_nil
  | cons c r =>
    exact ⟨c, r, rfl, Asp.digit_solid (toDigits_all_digit n c (by rw [h]; exact List.mem_cons_self))⟩

def predL (p : Pred) : List Char := p.symbol.toList ++ '/' :: arityL p.arity

theorem predicateL_print (p : Pred) (hp : SymName p.symbol.toList) (rest : List Char) (hr : StopsAt Char.isDigit rest) :
    predicateL (predL p ++ rest) = some (p, rest) := by
  rw [predL, List.append_assoc, List.cons_append]
  simp only [predicateL, lexSymConst_append _ _ hp ⟨'/', _, rfl, by decide⟩, skip_cons_solid _ (show Solid '/' by decide),
    skip_of_startsSolid ((arityL_startsSolid p.arity).append rest), lexArity_print _ _ hr, String.ofList_toList]

theorem stopsAt_dot (r : List Char) : StopsAt Char.isDigit ('.' :: r) :=
  fun _ _ e => (List.cons.inj e).1 ▸ by decide

theorem stripPrefix_self_append (l X : List Char) : stripPrefix l (l ++ X) = some X :=
  Asp.stripPrefix_append l X

theorem keywordColon_print {kw : String} {l : List Char} (hl : kw.toList = l) (X : List Char) (hX : StartsSolid X) :
    keywordColon kw (l ++ ':' :: ' ' :: X) = some X := by
  simp only [keywordColon, hl, stripPrefix_self_append, skip_cons_solid _ (show Solid ':' by decide), skip_space,
    skip_of_startsSolid hX]

theorem keywordColon_none {kw : String} {cs : List Char} (h : stripPrefix kw.toList cs = none) :
    keywordColon kw cs = none := by
  simp only [keywordColon, h]

def srtL : Srt → List Char
  | .general => ['g']
  | .integer => ['i']
  | .symbol => ['s']

theorem lexSort_print (s : Srt) (rest : List Char) (hr : NoId rest) : lexSort (srtL s ++ rest) = some (s, rest) := by
  have hg : ∀ c, c ≠ 'g' → lexSortG (c :: rest) = none := fun c h => lexSortWord_miss _ _ _ _ h
  have hi : lexSortI ('s' :: rest) = none := lexSortWord_miss _ _ _ _ (by decide)
  cases s with
  | general => simp only [srtL, List.cons_append, List.nil_append, lexSort, lexSortG_hit rest hr]
  | integer => simp only [srtL, List.cons_append, List.nil_append, lexSort, lexSortI_hit rest hr, hg 'i' (by decide)]
  | symbol => simp only [srtL, List.cons_append, List.nil_append, lexSort, lexSortS_hit rest hr, hg 's' (by decide), hi]

abbrev kwIn : List Char := ['i', 'n', 'p', 'u', 't']
abbrev kwOut : List Char := ['o', 'u', 't', 'p', 'u', 't']

/-- spelled out in one evaluation: a string literal left to a unification is decoded again every time -/
theorem ug_literals : "input".toList = kwIn ∧ "output".toList = kwOut ∧ "->".toList = ['-', '>'] ∧
    "input: ".toList = kwIn ++ [':', ' '] ∧ "output: ".toList = kwOut ++ [':', ' '] ∧ "/".toList = ['/'] ∧
    " -> ".toList = [' ', '-', '>', ' '] := by decide +kernel

theorem roleL_not_keyword (r : SRole) (X : List Char) :
    stripPrefix "input".toList (roleL r ++ X) = none ∧ stripPrefix "output".toList (roleL r ++ X) = none := by
  -- the first three characters of each role decide it
  obtain ⟨h1, h2, h3, h4, h5⟩ : (roleL .assumption).take 3 = ['a', 's', 's'] ∧ (roleL .spec).take 3 = ['s', 'p', 'e'] ∧
      (roleL .lemma).take 3 = ['l', 'e', 'm'] ∧ (roleL .definition).take 3 = ['d', 'e', 'f'] ∧
      (roleL .inductiveLemma).take 3 = ['i', 'n', 'd'] := by decide +kernel
  rw [ug_literals.1, ug_literals.2.1, ← List.take_append_drop 3 (roleL r)]
  -- on a literal three-character head `stripPrefix` meets its mismatch without looking at `X`
  cases r <;> simp only [h1, h2, h3, h4, h5] <;> exact ⟨rfl, rfl⟩

def UGEntry.printL : UGEntry → List Char
  | .input p => kwIn ++ ':' :: ' ' :: predL p
  | .output p => kwOut ++ ':' :: ' ' :: predL p
  | .placeholder n s => kwIn ++ ':' :: ' ' :: (n.toList ++ ' ' :: '-' :: '>' :: ' ' :: srtL s)
  | .formula a => SAnn.printL a

theorem srt_literals : "g".toList = ['g'] ∧ "i".toList = ['i'] ∧ "s".toList = ['s'] := by decide +kernel

theorem srt_toList (s : Srt) : (match s with | .general => "g" | .integer => "i" | .symbol => "s").toList = srtL s := by
  cases s
  · exact srt_literals.1
  · exact srt_literals.2.1
  · exact srt_literals.2.2

theorem UGEntry.print_toList (e : UGEntry) : e.print.toList = UGEntry.printL e := by
  obtain ⟨-, -, -, l4, l5, l6, l7⟩ := ug_literals
  cases e with
  | input p =>
    simp only [UGEntry.print, UGEntry.printL, String.toList_append, predL, arity_toList, l4, l6, List.append_assoc,
      List.cons_append, List.nil_append]
  | output p =>
    simp only [UGEntry.print, UGEntry.printL, String.toList_append, predL, arity_toList, l5, l6, List.append_assoc,
      List.cons_append, List.nil_append]
  | placeholder n s =>
    obtain ⟨lg, li, ls⟩ := srt_literals
    cases s <;>
      simp only [UGEntry.print, UGEntry.printL, String.toList_append, srtL, lg, li, ls, l4, l7, List.append_assoc,
        List.cons_append, List.nil_append]
  | formula a => exact SAnn.print_toList a

def UGEntry.Safe : UGEntry → Prop
  | .input p => SymName p.symbol.toList
  | .output p => SymName p.symbol.toList
  | .placeholder n _ => SymName n.toList
  | .formula a => SAnn.Safe a

theorem predL_startsSolid (p : Pred) (hp : SymName p.symbol.toList) : StartsSolid (predL p) :=
  (Asp.SymName.startsSolid hp).append _

theorem ugEntryL_printL (e : UGEntry) (he : UGEntry.Safe e) (Z : List Char) :
    ugEntryL (UGEntry.printL e ++ '.' :: Z) = some (e, '.' :: Z) := by
  obtain ⟨l1, l2, l3, -⟩ := ug_literals
  cases e with
  | input p =>
    show ugEntryL (kwIn ++ ':' :: ' ' :: (predL p ++ '.' :: Z)) = _
    simp only [ugEntryL, keywordColon_print l1 _ ((predL_startsSolid p he).append _),
      predicateL_print p he _ (stopsAt_dot Z), Option.map_some]
  | output p =>
    show ugEntryL (kwOut ++ ':' :: ' ' :: (predL p ++ '.' :: Z)) = _
    have hin : keywordColon "input" (kwOut ++ ':' :: ' ' :: (predL p ++ '.' :: Z)) = none :=
      keywordColon_none (by rw [l1]; rfl)
    simp only [ugEntryL, hin, keywordColon_print l2 _ ((predL_startsSolid p he).append _),
      predicateL_print p he _ (stopsAt_dot Z), Option.map_some]
  | placeholder n s =>
    rw [show UGEntry.printL (.placeholder n s) ++ '.' :: Z =
        kwIn ++ ':' :: ' ' :: (n.toList ++ ' ' :: '-' :: '>' :: ' ' :: (srtL s ++ '.' :: Z)) by
      simp only [UGEntry.printL, List.append_assoc, List.cons_append, List.nil_append]]
    have hkw := keywordColon_print l1 _
      ((Asp.SymName.startsSolid he).append (' ' :: '-' :: '>' :: ' ' :: (srtL s ++ '.' :: Z)))
    have hout : keywordColon "output"
        (kwIn ++ ':' :: ' ' :: (n.toList ++ ' ' :: '-' :: '>' :: ' ' :: (srtL s ++ '.' :: Z))) = none :=
      keywordColon_none (by rw [l2]; rfl)
    have hlex := lexSymConst_append n.toList (' ' :: '-' :: '>' :: ' ' :: (srtL s ++ '.' :: Z)) he ⟨' ', _, rfl, by decide⟩
    -- the name is no predicate: `-`, not `/`, follows it
    have hpred : predicateL (n.toList ++ ' ' :: '-' :: '>' :: ' ' :: (srtL s ++ '.' :: Z)) = none := by
      simp only [predicateL, hlex, skip_space, skip_cons_solid _ (show Solid '-' by decide)]
      rfl
    have hsrt : StartsSolid (srtL s ++ '.' :: Z) := by cases s <;> exact ⟨_, _, rfl, by decide⟩
    have harrow : stripPrefix "->".toList (skip ('-' :: '>' :: ' ' :: (srtL s ++ '.' :: Z))) =
        some (' ' :: (srtL s ++ '.' :: Z)) := by
      rw [skip_cons_solid _ (show Solid '-' by decide), l3]; rfl
    simp only [ugEntryL, hkw, hout, hpred, Option.map_none, hlex, harrow, skip_space, skip_of_startsSolid hsrt,
      lexSort_print s ('.' :: Z) (Asp.noId_cons Z (by decide)), String.ofList_toList]
  | formula a =>
    have htxt : UGEntry.printL (.formula a) ++ '.' :: Z =
        roleL a.role ++ (dirL a.direction ++ (nameL a.name ++ ':' :: ' ' :: Formula.printL a.formula) ++ '.' :: Z) := by
      simp only [UGEntry.printL, SAnn.printL, List.append_assoc]
    obtain ⟨hin, hout⟩ := roleL_not_keyword a.role
      (dirL a.direction ++ (nameL a.name ++ ':' :: ' ' :: Formula.printL a.formula) ++ '.' :: Z)
    rw [← htxt] at hin hout
    have hann := annotatedL_printL a he ('.' :: Z) (atomicFollow_dot Z) (lexConn_dot Z)
    simp only [UGEntry.printL] at hin hout ⊢
    simp only [ugEntryL, keywordColon_none hin, keywordColon_none hout, hann, Option.map_some]

def UserGuide.Safe (u : UserGuide) : Prop := ∀ e ∈ u, UGEntry.Safe e

theorem UGEntry.printL_startsSolid (e : UGEntry) : StartsSolid (UGEntry.printL e) := by
  cases e with
  | input p => exact ⟨'i', _, rfl, by decide⟩
  | output p => exact ⟨'o', _, rfl, by decide⟩
  | placeholder n s => exact ⟨'i', _, rfl, by decide⟩
  | formula a => exact SAnn.printL_startsSolid a

theorem ugEntryL_nil : ugEntryL [] = none := by
  have h : ∀ kw : String, keywordColon kw [] = none := fun kw => by
    simp only [keywordColon]
    cases kw.toList <;> rfl
  simp only [ugEntryL, h, annotatedL_nil, Option.map_none]

theorem ugParser : DotParser ugEntryL ugEntriesDot parseUserGuide where
  zero _ := rfl
  miss n cs h := by simp only [ugEntriesDot, h]
  dot n cs a r r' h h' := by simp only [ugEntriesDot, h, h']
  stop n cs a r h h' := by simp only [ugEntriesDot, h]
  eoi s l := by
    simp only [parseUserGuide]
    split
    · next h => simp only [Option.some.injEq, h, and_true]
    · next h => exact ⟨nofun, fun e => absurd e.2 h⟩

theorem parseUserGuide_printUserGuide (u : UserGuide) (hu : UserGuide.Safe u) :
    parseUserGuide (printUserGuide u) = some u := by
  refine ugParser.parse_print UGEntry.Safe UGEntry.print ugEntryL_nil (fun e _ => ?_) (fun e he Z => ?_) u hu
  · rw [UGEntry.print_toList]; exact UGEntry.printL_startsSolid e
  · rw [UGEntry.print_toList]; exact ugEntryL_printL e he Z

theorem parseTheoryChecked_eq_filter (s : String) :
    parseTheoryChecked s = (parseTheory s).filter fun t => t.all formulaInRange := by
  unfold parseTheoryChecked
  cases parseTheory s <;> rfl

theorem parseSpecificationChecked_eq_filter (s : String) :
    parseSpecificationChecked s = (parseSpecification s).filter fun t => t.all fun a => formulaInRange a.formula := by
  unfold parseSpecificationChecked
  cases parseSpecification s <;> rfl

theorem parseUserGuideChecked_eq_filter (s : String) :
    parseUserGuideChecked s = (parseUserGuide s).filter fun u => u.all ugEntryInRange := by
  unfold parseUserGuideChecked
  cases parseUserGuide s <;> rfl

end Anthem.Fol
