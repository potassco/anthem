/-
  C16 for the external-equivalence pipeline: `externalProblems` (model of
  `ExternalEquivalenceTask::decompose`) has no reachable panic. `completion` never fails on a tau* theory
  ("tau_star did not create a completable theory" is unreachable), the `unreachable!` role branches of the
  assembly are unreachable after the applicability checks, and `globalsPanic`, the guard of
  `theoryTranslate`, is constantly `false` (anthem 1d6d77a checks the index addition).
-/
import AnthemModel.Proofs.ExternalOutline
import AnthemModel.Proofs.ExternalSemPh
namespace Anthem
open Asp

theorem completion_tauStar_some (P : Program) (ins : List Pred) :
    ∃ Γ, completion (tauStar P) ins = some Γ :=
  (completion_tauStar P ins).imp fun _ h => h.1

theorem theoryTranslate_no_panic (t : ExternalTask) (m : PlaceholderMap) (fuel : Nat) (p : Program) (s : String) :
    theoryTranslate t m fuel p ≠ .panic s := by
  intro h
  unfold theoryTranslate at h
  rcases ite_eq_cases h with ⟨hp, _⟩ | ⟨_, h⟩
  · exact Bool.false_ne_true hp
  rw [map_replacePlaceholders_eq] at h
  dsimp only at h
  rw [completion_substSym (phTheta_closed m)] at h
  obtain ⟨Γ, hΓ⟩ := completion_tauStar_some p t.userGuide.inputs
  rw [hΓ] at h
  rcases ite_eq_cases h with ⟨_, h⟩ | ⟨_, h⟩
  · split at h <;> cases h
  · cases h

theorem Outcome.bind_eq_panic {α β} {x : Outcome α} {f : α → Outcome β} {s : String} (h : x >>= f = .panic s) :
    x = .panic s ∨ ∃ a, x = .ok a ∧ f a = .panic s := by
  cases x with
  | ok a => exact Or.inr ⟨a, rfl, h⟩
  | err e => cases h
  | panic s' => cases h; exact Or.inl rfl
  | timeout => cases h

theorem ugAss_fold_no_panic (ug : UserGuide) (m : PlaceholderMap) (s : String) : ∀ (l : List SAnn) (st : Outcome (List SAnn)),
    l.foldl (ugAssStep ug m) st = .panic s → st = .panic s := by
  intro l
  induction l with
  | nil => exact fun st h => h
  | cons f l ih =>
    intro st h
    have hs := ih _ h
    unfold ugAssStep at hs
    cases st with
    | ok x =>
      rcases ite_eq_cases hs with ⟨_, hs⟩ | ⟨_, hs⟩
      · rcases ite_eq_cases hs with ⟨_, hs⟩ | ⟨_, hs⟩ <;> cases hs
      · cases hs
    | err e => cases hs
    | panic s0 => exact hs
    | timeout => cases hs

theorem proofOutlineFrom_no_panic (spec : Specification) (taken : List Pred) (m : PlaceholderMap) (s : String) :
    proofOutlineFrom spec taken m ≠ .panic s := by
  have fold : ∀ (l : Specification) (st : Outcome (ProofOutline × List Pred × List Pred)),
      l.foldl (outlineStep m) st = .panic s → st = .panic s := by
    intro l
    induction l with
    | nil => exact fun st h => h
    | cons a l ih =>
      intro st h
      have hs := ih _ h
      cases st with
      | ok x =>
        rcases Outline.outlineStep_cases m x.1 x.2.1 x.2.2 a with ⟨_, he⟩ | ⟨_, _, _, _, _, hok, _⟩ | ⟨_, _, _, _, _, hok, _⟩
        · rw [he] at hs; cases hs
        · rw [hok] at hs; cases hs
        · rw [hok] at hs; cases hs
      | err e => cases hs
      | panic s0 => exact hs
      | timeout => cases hs
  intro h
  unfold proofOutlineFrom at h
  split at h
  · cases h
  · cases h
  · rename_i hf; cases h; cases fold _ _ hf
  · cases h

/-- **C16, external equivalence** (`C16.external_never_panics`) -/
theorem externalProblems_no_panic (t : ExternalTask) (fuel : Nat) (s : String) : externalProblems t fuel ≠ .panic s := by
  intro h
  unfold externalProblems at h
  cases hpre : precheck t with
  | some e => rw [hpre] at h; cases h
  | none =>
    rw [hpre] at h
    dsimp only at h
    -- the stages after the specification side: the assembly succeeds because the roles of the
    -- specification side were checked
    have tail : ∀ (left : List SAnn), RolesAS left →
        (do
          let rightTh ← theoryTranslate t t.phMap fuel t.program
          let right := (controlTranslate t.userGuide.publicPreds rightTh).map fun a =>
            { a with formula := a.formula.renamePreds t.clashMap }
          let ugAss ← t.userGuide.formulas.foldl (ugAssStep t.userGuide t.phMap) (.ok [])
          let taken := right.foldl (fun acc a => ext acc a.formula.preds)
            (left.foldl (fun acc a => ext acc a.formula.preds) t.userGuide.inputs)
          let po ← proofOutlineFrom t.proofOutline taken t.phMap
          let asm ← assemble left right ugAss t.breakEq
          pure (assembledProblems asm po t.decomposition t.direction)) = Outcome.panic s → False := by
      intro left hroles h
      rcases Outcome.bind_eq_panic h with hR | ⟨ΓR, -, h⟩
      · exact theoryTranslate_no_panic t _ fuel _ s hR
      rcases Outcome.bind_eq_panic h with hU | ⟨ugAss, -, h⟩
      · cases ugAss_fold_no_panic _ _ s _ _ hU
      rcases Outcome.bind_eq_panic h with hPO | ⟨po, -, h⟩
      · exact absurd hPO (proofOutlineFrom_no_panic _ _ _ s)
      rcases Outcome.bind_eq_panic h with hasm | ⟨asm, -, h⟩
      · cases (assemble_gen t left ugAss ΓR hroles).symm.trans hasm
      · cases h
    cases hspec : t.specification with
    | inl PL =>
      rw [hspec] at h
      rcases Outcome.bind_eq_panic h with hL | ⟨ΓL, -, h⟩
      · exact theoryTranslate_no_panic t _ fuel PL s hL
      rcases Outcome.bind_eq_panic h with h0 | ⟨_, ⟨⟩, h⟩
      · cases h0
      exact tail _ (rolesAS_of_univ fun a ha => ((controlTranslate_spec _ ΓL).1 a ha).2) h
    | inr S =>
      rw [hspec] at h
      rcases Outcome.bind_eq_panic h with h0 | ⟨_, ⟨⟩, h⟩
      · cases h0
      exact tail _ (rolesAS_map_replace t.phMap (precheck_spec t S hspec hpre).2) h

end Anthem
