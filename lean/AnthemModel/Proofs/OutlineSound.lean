/-
  Soundness of proof outlines: what a general lemma contributes as an axiom follows from its obligations,
  and along an outline every lemma used as an axiom is true in every interpretation that satisfies the axioms
  of the direction and refutes none of the outline problems. Each model function of the outline construction
  is read once, by a lemma `*_cases`: the result is an error, or one of the accepted shapes together with
  what the checks established.
-/
import AnthemModel.Proofs.InductionSound
import AnthemModel.Proofs.DefinitionAccepted
import AnthemModel.Proofs.RenameValid
namespace Anthem.Outline
open Asp

def GLSound (gl : GeneralLemma) : Prop :=
  ∀ (J : Interp) (ρ : Asg), (∀ c ∈ gl.conjectures, sat J c.formula ρ) → ∀ c ∈ gl.consequences, sat J c.formula ρ

theorem inductiveLemma_cases (f : Formula) :
    (∃ e, inductiveLemma f = .err e) ∨
    ∃ (vars : List Var) (v : String) (n : Int) (rhs : Formula),
      f = .quant .all vars (.bin .imp (.atomic (.cmp (.int (.var v)) [⟨.ge, .int (.num n)⟩])) rhs) ∧
      sameSet (vars.foldl ins []) rhs.fv = true ∧
      inductiveLemma f = .ok ((rhs.subst ⟨v, .integer⟩ (.int (.num n))).universalClosure,
        (Formula.bin .imp (.bin .and (.atomic (.cmp (.int (.var v)) [⟨.ge, .int (.num n)⟩])) rhs)
          (rhs.subst ⟨v, .integer⟩ (.int (.bin .add (.var v) (.num 1))))).universalClosure) := by
  generalize hr : inductiveLemma f = r
  unfold inductiveLemma at hr
  split at hr
  · rename_i vars lhs rhs
    split at hr
    · rcases ite_eq_cases hr with ⟨_, hr⟩ | ⟨_, hr⟩
      · exact Or.inl ⟨_, hr.symm⟩
      rcases ite_eq_cases hr with ⟨_, hr⟩ | ⟨hsame, hr⟩
      · exact Or.inl ⟨_, hr.symm⟩
      split at hr
      · split at hr
        · refine Or.inr ⟨vars, _, _, rhs, rfl, ?_, hr.symm⟩
          cases hs : sameSet (vars.foldl ins []) rhs.fv
          · rw [hs] at hsame; exact absurd rfl hsame
          · rfl
        · exact Or.inl ⟨_, hr.symm⟩
      · exact Or.inl ⟨_, hr.symm⟩
    · exact Or.inl ⟨_, hr.symm⟩
  · exact Or.inl ⟨_, hr.symm⟩

theorem inductiveLemma_sound (f base step : Formula) (h : inductiveLemma f = .ok (base, step)) (J : Interp) (ρ : Asg)
    (hb : sat J base ρ) (hs : sat J step ρ) : sat J f ρ := by
  rcases inductiveLemma_cases f with ⟨e, he⟩ | ⟨vars, v, n, rhs, rfl, hsame, hok⟩
  · rw [he] at h; cases h
  rw [hok] at h; cases h
  simp only [sat]
  refine bindAll_iff.mpr fun τ hτ hl => ?_
  simp only [AtomicF.sat, cmpChain, and_true, GTerm.eval, ITerm.eval, Rel.holds, Dom.le] at hl
  -- `τ` made well-sorted (`WS`, Proofs/InductionSound) outside `vars`, where it does not matter
  let τ' : Asg := fun w => if w ∈ vars then τ w else w.sort.default
  have hws : WS τ' := by
    intro w
    by_cases hw : w ∈ vars
    · simp only [τ', hw, if_true]; exact hτ.2 w hw
    · simp only [τ', hw, if_false]; exact Srt.default_inSort _
  have hmain := induction_sound J rhs v n ρ hb hs τ' hws (τ ⟨v, .integer⟩).toInt hl
  refine (sat_agree J rhs _ τ fun w hw => ?_).mp hmain
  have hwv : w ∈ vars := mem_foldl_ins_nil.mp ((sameSet_true.mp hsame).2 w (Formula.mem_fv.mpr hw))
  by_cases e : w = ⟨v, .integer⟩
  · subst e
    obtain ⟨z, hz⟩ := Dom.inSort_integer.mp (hτ.2 _ hwv)
    rw [Asg.set_same, hz]; rfl
  · rw [Asg.set_other _ _ e]
    simp only [τ', hwv, if_true]

theorem generalLemma_cases (a : SAnn) :
    (∃ e, generalLemma a = .err e) ∨
    generalLemma a = .ok ⟨[a.toProblem .conjecture], [a.toProblem .axiom]⟩ ∨
    ∃ base step, inductiveLemma a.formula = .ok (base, step) ∧
      generalLemma a = .ok ⟨[⟨a.name ++ "base_case", .conjecture, base⟩, ⟨a.name ++ "inductive_step", .conjecture, step⟩],
        [a.toProblem .axiom]⟩ := by
  generalize hr : generalLemma a = r
  unfold generalLemma at hr
  split at hr
  · exact Or.inr (Or.inl hr.symm)
  · rcases inductiveLemma_cases a.formula with ⟨e, he⟩ | ⟨_, _, _, _, _, _, hok⟩
    · rw [he] at hr; exact Or.inl ⟨e, hr.symm⟩
    · rw [hok] at hr; exact Or.inr (Or.inr ⟨_, _, hok, hr.symm⟩)
  · exact Or.inl ⟨_, hr.symm⟩

theorem generalLemma_ok_or_err (a : SAnn) : (∃ e, generalLemma a = .err e) ∨ ∃ gl, generalLemma a = .ok gl := by
  rcases generalLemma_cases a with ⟨e, he⟩ | hok | ⟨_, _, _, hok⟩
  · exact Or.inl ⟨e, he⟩
  · exact Or.inr ⟨_, hok⟩
  · exact Or.inr ⟨_, hok⟩

def GLGood (gl : GeneralLemma) : Prop :=
  GLSound gl ∧ (∀ c ∈ gl.conjectures, c.role = .conjecture) ∧ (∀ c ∈ gl.consequences, c.role = .axiom)

theorem generalLemma_good (a : SAnn) (gl : GeneralLemma) (h : generalLemma a = .ok gl) : GLGood gl := by
  rcases generalLemma_cases a with ⟨e, he⟩ | hok | ⟨base, step, hil, hok⟩
  · rw [he] at h; cases h
  · rw [hok] at h; cases h
    refine ⟨fun J ρ hc c hcm => ?_, fun c hc => ?_, fun c hc => ?_⟩
    · cases List.mem_singleton.mp hcm
      exact hc (a.toProblem .conjecture) List.mem_cons_self
    · cases List.mem_singleton.mp hc; rfl
    · cases List.mem_singleton.mp hc; rfl
  · rw [hok] at h; cases h
    refine ⟨fun J ρ hc c hcm => ?_, fun c hc => ?_, fun c hc => ?_⟩
    · cases List.mem_singleton.mp hcm
      exact inductiveLemma_sound a.formula base step hil J ρ (hc ⟨_, .conjecture, base⟩ List.mem_cons_self)
        (hc ⟨_, .conjecture, step⟩ (List.mem_cons_of_mem _ List.mem_cons_self))
    · simp only [List.mem_cons, List.not_mem_nil, or_false] at hc
      rcases hc with rfl | rfl <;> rfl
    · cases List.mem_singleton.mp hc; rfl

theorem generalLemma_sound (a : SAnn) (gl : GeneralLemma) (h : generalLemma a = .ok gl) : GLSound gl :=
  (generalLemma_good a gl h).1

theorem outline_sequencing (dirName : String) (axioms0 : List AnnF) (lemmas : List GeneralLemma) :
    outlineProblems dirName axioms0 lemmas =
      (indexFrom 0 lemmas).flatMap fun (k, l) =>
        (indexFrom 0 l.conjectures).map fun (j, c) =>
          mkProblem (dirName ++ "_outline_" ++ toString k ++ "_" ++ toString j)
            [axioms0 ++ (lemmas.take k).flatMap (·.consequences), [c]] := by
  unfold outlineProblems
  suffices h : ∀ (ls pre : List GeneralLemma) (ps : List Problem),
      (ls.foldl (fun (acc : List Problem × List AnnF × Nat) (l : GeneralLemma) =>
        (acc.1 ++ (indexFrom 0 l.conjectures).map fun (j, c) =>
            mkProblem (dirName ++ "_outline_" ++ toString acc.2.2 ++ "_" ++ toString j) [acc.2.1, [c]],
          acc.2.1 ++ l.consequences, acc.2.2 + 1))
        (ps, axioms0 ++ pre.flatMap (·.consequences), pre.length)).1 =
      ps ++ (indexFrom pre.length ls).flatMap fun (k, l) =>
        (indexFrom 0 l.conjectures).map fun (j, c) =>
          mkProblem (dirName ++ "_outline_" ++ toString k ++ "_" ++ toString j)
            [axioms0 ++ ((pre ++ ls).take k).flatMap (·.consequences), [c]] by
    simpa only [List.flatMap_nil, List.append_nil, List.length_nil, List.nil_append] using h lemmas [] []
  intro ls
  induction ls with
  | nil => intro pre ps; simp only [List.foldl_nil, indexFrom, List.flatMap_nil, List.append_nil]
  | cons l ls ih =>
    intro pre ps
    simp only [List.foldl_cons, indexFrom, List.flatMap_cons]
    have := ih (pre ++ [l]) (ps ++ (indexFrom 0 l.conjectures).map fun (j, c) =>
      mkProblem (dirName ++ "_outline_" ++ toString pre.length ++ "_" ++ toString j)
        [axioms0 ++ pre.flatMap (·.consequences), [c]])
    -- `this` is the invariant after the step for `l` (prefix `pre ++ [l]`, the problems of `l` appended);
    -- brought to the shape of the goal: the accumulated axioms are `axioms0 ++ consequences of pre ++ l.consequences`
    simp only [List.flatMap_append, List.flatMap_cons, List.flatMap_nil, List.append_nil,
      List.length_append, List.length_cons, List.length_nil, Nat.zero_add, List.append_assoc,
      List.singleton_append] at this
    rw [← List.append_assoc axioms0] at this
    rw [this]
    -- what is left: the problems of `l` itself take `pre`, the first `pre.length` of `pre ++ l :: ls`
    simp only [List.take_left' (l₂ := l :: ls) rfl]

/-- a problem is refuted iff some member of a decomposition of it is (`decompose_refutes`), and
    `mk_refutes` reads the latter -/
theorem mk_refutes_single (J : Interp) (ρ : Asg) (name : String) (parts : List (List AnnF))
    (hnc : (mkProblem0 name parts).renameConflictingSymbols = mkProblem0 name parts) :
    Refutes J ρ (mkProblem name parts) ↔
      (∀ part ∈ parts, ∀ a ∈ part, a.role = .axiom → sat J a.formula ρ) ∧
      ¬ ∀ part ∈ parts, ∀ a ∈ part, a.role = .conjecture → sat J a.formula ρ :=
  (decompose_refutes J ρ _ .sequential).symm.trans (mk_refutes J ρ name parts .sequential hnc)

theorem indexFrom_mem_split {α} (pre : List α) (x : α) (post : List α) (s : Nat) :
    (pre.length + s, x) ∈ indexFrom s (pre ++ x :: post) := by
  induction pre generalizing s with
  | nil => simp [indexFrom]
  | cons a pre ih =>
    simp only [List.cons_append, indexFrom, List.length_cons, List.mem_cons]
    right
    have := ih (s + 1)
    rwa [show pre.length + (s + 1) = pre.length + 1 + s by omega] at this

def outlineParts (axioms0 : List AnnF) (pre : List GeneralLemma) (c : AnnF) : List (List AnnF) :=
  [axioms0 ++ pre.flatMap (·.consequences), [c]]

/-- the side condition of `outline_sound`, which reads an emitted problem as its parts; `outline_sound_valid`
    starts from "no outline problem has a countermodel" and needs none -/
def NoConflictOutline (dirName : String) (axioms0 : List AnnF) (lemmas : List GeneralLemma) : Prop :=
  ∀ (pre : List GeneralLemma) (l : GeneralLemma) (post : List GeneralLemma), lemmas = pre ++ l :: post →
    ∀ j c, (j, c) ∈ indexFrom 0 l.conjectures →
      (mkProblem0 (dirName ++ "_outline_" ++ toString pre.length ++ "_" ++ toString j) (outlineParts axioms0 pre c)).renameConflictingSymbols =
        mkProblem0 (dirName ++ "_outline_" ++ toString pre.length ++ "_" ++ toString j) (outlineParts axioms0 pre c)

theorem outlineProblem_mem (dirName : String) (axioms0 : List AnnF) {lemmas pre post : List GeneralLemma}
    {l : GeneralLemma} (hsplit : lemmas = pre ++ l :: post) {j : Nat} {c : AnnF}
    (hj : (j, c) ∈ indexFrom 0 l.conjectures) :
    mkProblem (dirName ++ "_outline_" ++ toString pre.length ++ "_" ++ toString j) (outlineParts axioms0 pre c) ∈
      outlineProblems dirName axioms0 lemmas := by
  rw [outline_sequencing]
  simp only [List.mem_flatMap, List.mem_map, Prod.exists]
  have hk := indexFrom_mem_split pre l post 0
  rw [Nat.add_zero, ← hsplit] at hk
  refine ⟨pre.length, l, hk, j, c, hj, ?_⟩
  rw [hsplit, List.take_left' rfl]
  rfl

theorem obligation_of_not_semRef {J : Interp} {ρ : Asg} {ax : List AnnF} {c : AnnF} (hc : c.role = .conjecture)
    (hax : ∀ a ∈ ax, sat J a.formula ρ) (h : ¬ SemRef J ρ [ax, [c]]) : sat J c.formula ρ := by
  refine Classical.byContradiction fun hn => h ⟨?_, fun hall => hn ?_⟩
  · intro part hpart a ha hr
    simp only [List.mem_cons, List.not_mem_nil, or_false] at hpart
    rcases hpart with rfl | rfl
    · exact hax a ha
    · cases List.mem_singleton.mp ha; rw [hc] at hr; cases hr
  · exact hall [c] (List.mem_cons_of_mem _ List.mem_cons_self) c List.mem_cons_self hc

/-- every obligation is true in turn, and with it what its lemma contributes -/
theorem outline_chain (axioms0 : List AnnF) (lemmas : List GeneralLemma)
    (hsound : ∀ l ∈ lemmas, GLSound l) (hroles : ∀ l ∈ lemmas, ∀ c ∈ l.conjectures, c.role = .conjecture)
    (J : Interp) (ρ : Asg) (hax : ∀ a ∈ axioms0, sat J a.formula ρ)
    (hno : ∀ (pre : List GeneralLemma) (l : GeneralLemma) (post : List GeneralLemma), lemmas = pre ++ l :: post →
      ∀ j c, (j, c) ∈ indexFrom 0 l.conjectures → ¬ SemRef J ρ (outlineParts axioms0 pre c)) :
    ∀ l ∈ lemmas, ∀ c ∈ l.consequences, sat J c.formula ρ := by
  suffices main : ∀ (post pre : List GeneralLemma), lemmas = pre ++ post →
      (∀ c ∈ pre.flatMap (·.consequences), sat J c.formula ρ) → ∀ l ∈ post, ∀ c ∈ l.consequences, sat J c.formula ρ from
    main lemmas [] rfl (fun c hc => nomatch hc)
  intro post
  induction post with
  | nil => intro _ _ _ l hl; cases hl
  | cons l post ih =>
    intro pre hsplit hpre l' hl' c hc
    have hmem : l ∈ lemmas := by rw [hsplit]; exact List.mem_append.mpr (Or.inr List.mem_cons_self)
    have hl : ∀ c ∈ l.consequences, sat J c.formula ρ := by
      refine hsound l hmem J ρ fun c hc => ?_
      obtain ⟨j, hj⟩ := (mem_indexFrom (k := 0)).mp hc
      exact obligation_of_not_semRef (hroles l hmem c hc)
        (fun a ha => (List.mem_append.mp ha).elim (hax a) (hpre a)) (hno pre l post hsplit j c hj)
    rcases List.mem_cons.mp hl' with rfl | hl'
    · exact hl c hc
    · refine ih (pre ++ [l]) (by rw [hsplit, List.append_assoc]; rfl) ?_ l' hl' c hc
      intro c' hc'
      simp only [List.flatMap_append, List.flatMap_cons, List.flatMap_nil, List.append_nil, List.mem_append] at hc'
      exact hc'.elim (hpre c') (hl c')

theorem outline_sound (dirName : String) (axioms0 : List AnnF) (lemmas : List GeneralLemma)
    (hsound : ∀ l ∈ lemmas, GLSound l) (hroles : ∀ l ∈ lemmas, ∀ c ∈ l.conjectures, c.role = .conjecture)
    (hnc : NoConflictOutline dirName axioms0 lemmas) (J : Interp) (ρ : Asg)
    (hnot : ∀ P ∈ outlineProblems dirName axioms0 lemmas, ¬ Refutes J ρ P)
    (hax : ∀ a ∈ axioms0, sat J a.formula ρ) :
    ∀ l ∈ lemmas, ∀ c ∈ l.consequences, sat J c.formula ρ :=
  outline_chain axioms0 lemmas hsound hroles J ρ hax fun pre l post hsplit j c hj href =>
    hnot _ (outlineProblem_mem dirName axioms0 hsplit hj)
      ((mk_refutes_single J ρ _ _ (hnc pre l post hsplit j c hj)).mpr href)

theorem outline_sound_valid (dirName : String) (axioms0 : List AnnF) (lemmas : List GeneralLemma)
    (hsound : ∀ l ∈ lemmas, GLSound l) (hroles : ∀ l ∈ lemmas, ∀ c ∈ l.conjectures, c.role = .conjecture)
    (hvalid : ∀ P ∈ outlineProblems dirName axioms0 lemmas, ∀ J ρ, ¬ Refutes J ρ P)
    (J : Interp) (ρ : Asg) (hax : ∀ a ∈ axioms0, sat J a.formula ρ) :
    ∀ l ∈ lemmas, ∀ c ∈ l.consequences, sat J c.formula ρ :=
  outline_chain axioms0 lemmas hsound hroles J ρ hax fun _ _ _ hsplit _ _ hj =>
    valid_single _ _ (hvalid _ (outlineProblem_mem dirName axioms0 hsplit hj)) J ρ

def MaybeSnoc {α} (l : List α) (x : α) (l' : List α) : Prop := l' = l ∨ l' = l ++ [x]

theorem MaybeSnoc.all {α} {P : α → Prop} {l l' : List α} {x : α} (h : MaybeSnoc l x l')
    (hl : ∀ a ∈ l, P a) (hx : P x) : ∀ a ∈ l', P a := by
  rcases h with rfl | rfl
  · exact hl
  · intro a ha
    rcases List.mem_append.mp ha with ha | ha
    · exact hl a ha
    · cases List.mem_singleton.mp ha; exact hx

theorem outlineStep_cases (m : PlaceholderMap) (po : ProofOutline) (taken lem : List Pred) (a : SAnn) :
    (∃ e, outlineStep m (.ok (po, taken, lem)) a = .err e) ∨
    (∃ c gl po', (a.role = .lemma ∨ a.role = .inductiveLemma) ∧ generalLemma c = .ok gl ∧
      outlineStep m (.ok (po, taken, lem)) a = .ok (po', taken, ext lem (a.replacePlaceholders m).formula.preds) ∧
      po'.forwardDefinitions = po.forwardDefinitions ∧ po'.backwardDefinitions = po.backwardDefinitions ∧
      MaybeSnoc po.forwardLemmas gl po'.forwardLemmas ∧ MaybeSnoc po.backwardLemmas gl po'.backwardLemmas) ∨
    (∃ p po', a.role = .definition ∧ checkDefinition (a.replacePlaceholders m).formula taken = .ok p ∧ p ∉ lem ∧
      outlineStep m (.ok (po, taken, lem)) a = .ok (po', ins taken p, lem) ∧
      po'.forwardLemmas = po.forwardLemmas ∧ po'.backwardLemmas = po.backwardLemmas ∧
      MaybeSnoc po.forwardDefinitions (a.replacePlaceholders m) po'.forwardDefinitions ∧
      MaybeSnoc po.backwardDefinitions (a.replacePlaceholders m) po'.backwardDefinitions) := by
  generalize hr : outlineStep m (.ok (po, taken, lem)) a = r
  unfold outlineStep at hr
  dsimp only at hr
  split at hr
  iterate 2
    · rename_i h1
      have hro : a.role = .lemma ∨ a.role = .inductiveLemma := by first | exact Or.inl h1 | exact Or.inr h1
      rcases generalLemma_ok_or_err (({ a.replacePlaceholders m with
        formula := (a.replacePlaceholders m).formula.closureJoined } : SAnn).replacePlaceholders m) with ⟨e, he⟩ | ⟨gl, hgl⟩
      · rw [he] at hr; exact Or.inl ⟨e, hr.symm⟩
      rw [hgl] at hr
      cases hd : (a.replacePlaceholders m).direction <;> rw [hd] at hr
      · exact Or.inr (Or.inl ⟨_, gl, _, hro, hgl, hr.symm, rfl, rfl, Or.inr rfl, Or.inr rfl⟩)
      · exact Or.inr (Or.inl ⟨_, gl, _, hro, hgl, hr.symm, rfl, rfl, Or.inr rfl, Or.inl rfl⟩)
      · exact Or.inr (Or.inl ⟨_, gl, _, hro, hgl, hr.symm, rfl, rfl, Or.inl rfl, Or.inr rfl⟩)
  · rename_i h1
    rcases checkDefinition_cases (a.replacePlaceholders m).formula taken with ⟨e, he⟩ | ⟨_, d, _, _, _, hok, _⟩
    · rw [he] at hr; exact Or.inl ⟨e, hr.symm⟩
    rw [hok] at hr
    rcases ite_eq_cases hr with ⟨_, hr⟩ | ⟨hnl, hr⟩
    · exact Or.inl ⟨_, hr.symm⟩
    cases hd : (a.replacePlaceholders m).direction <;> rw [hd] at hr
    · exact Or.inr (Or.inr ⟨_, _, h1, hok, hnl, hr.symm, rfl, rfl, Or.inr rfl, Or.inr rfl⟩)
    · exact Or.inr (Or.inr ⟨_, _, h1, hok, hnl, hr.symm, rfl, rfl, Or.inr rfl, Or.inl rfl⟩)
    · exact Or.inr (Or.inr ⟨_, _, h1, hok, hnl, hr.symm, rfl, rfl, Or.inl rfl, Or.inr rfl⟩)
  · exact Or.inl ⟨_, hr.symm⟩
  · exact Or.inl ⟨_, hr.symm⟩

theorem proofOutlineFrom_inv (Inv : ProofOutline → List Pred → List Pred → Prop) (m : PlaceholderMap)
    (hstep : ∀ po taken lem a po' taken' lem', Inv po taken lem →
      outlineStep m (.ok (po, taken, lem)) a = .ok (po', taken', lem') → Inv po' taken' lem')
    (spec : Specification) (taken : List Pred) (po : ProofOutline)
    (h : proofOutlineFrom spec taken m = .ok po) (h0 : Inv {} taken []) : ∃ taken' lem', Inv po taken' lem' := by
  have fold : ∀ (spec : Specification) (st : Outcome (ProofOutline × List Pred × List Pred)) (po' : ProofOutline)
      (taken' lem' : List Pred), spec.foldl (outlineStep m) st = .ok (po', taken', lem') →
      ∃ po taken lem, st = .ok (po, taken, lem) ∧ (Inv po taken lem → Inv po' taken' lem') := by
    intro spec
    induction spec with
    | nil => exact fun st po' taken' lem' h => ⟨po', taken', lem', h, id⟩
    | cons a spec ih =>
      intro st po' taken' lem' h
      obtain ⟨po1, taken1, lem1, h1, himp⟩ := ih _ po' taken' lem' h
      cases st with
      | ok x => exact ⟨x.1, x.2.1, x.2.2, rfl, fun hi => himp (hstep _ _ _ a _ _ _ hi h1)⟩
      | err e => cases h1
      | panic s => cases h1
      | timeout => cases h1
  unfold proofOutlineFrom at h
  split at h
  · rename_i po' rest hf
    cases h
    obtain ⟨_, _, _, h1, himp⟩ := fold spec _ po rest.1 rest.2 hf
    cases h1
    exact ⟨_, _, himp h0⟩
  all_goals cases h

def POGood (po : ProofOutline) : Prop := (∀ l ∈ po.forwardLemmas, GLGood l) ∧ (∀ l ∈ po.backwardLemmas, GLGood l)

theorem proofOutlineFrom_good (spec : Specification) (taken : List Pred) (m : PlaceholderMap) (po : ProofOutline)
    (h : proofOutlineFrom spec taken m = .ok po) : POGood po := by
  suffices step : ∀ po taken lem a po' taken' lem', POGood po →
      outlineStep m (.ok (po, taken, lem)) a = .ok (po', taken', lem') → POGood po' by
    obtain ⟨_, _, hgood⟩ := proofOutlineFrom_inv (fun po _ _ => POGood po) m step spec taken po h
      ⟨fun _ hl => (nomatch hl), fun _ hl => (nomatch hl)⟩
    exact hgood
  intro po taken lem a po' taken' lem' hgood hs
  rcases outlineStep_cases m po taken lem a with ⟨e, he⟩ | ⟨c, gl, po1, _, hgl, hok, _, _, hf, hb⟩ |
      ⟨p, po1, _, _, _, hok, hf, hb, _, _⟩
  · rw [he] at hs; cases hs
  · rw [hok] at hs; cases hs
    exact ⟨hf.all hgood.1 (generalLemma_good c gl hgl), hb.all hgood.2 (generalLemma_good c gl hgl)⟩
  · rw [hok] at hs; cases hs
    exact ⟨hf ▸ hgood.1, hb ▸ hgood.2⟩

end Anthem.Outline
