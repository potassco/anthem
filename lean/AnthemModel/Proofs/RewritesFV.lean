/-
  C07, second claim: no rewrite introduces a free variable. The relations in which each rewrite is
  stated, and the free variables of what the rewrites build from.
-/
import AnthemModel.Proofs.Agree
import AnthemModel.Proofs.Congruence
namespace Anthem

/-- `G` (the new formula, as in `FormulaCongr`) has no free variable that `F` lacks -/
def FVLe (G F : Formula) : Prop := ∀ v, G.FV v → F.FV v

theorem FVLe.refl (F : Formula) : FVLe F F := fun _ h => h
theorem FVLe.trans {A B C : Formula} (h1 : FVLe A B) (h2 : FVLe B C) : FVLe A C := fun v h => h2 v (h1 v h)
theorem FVLe.not {A B : Formula} (h : FVLe A B) : FVLe (.not A) (.not B) := fun v hv => h v hv
theorem FVLe.bin (c : Conn) {A B A' B' : Formula} (h1 : FVLe A A') (h2 : FVLe B B') :
    FVLe (.bin c A B) (.bin c A' B') := fun v hv => hv.elim (fun h => Or.inl (h1 v h)) (fun h => Or.inr (h2 v h))
theorem FVLe.quant (q : Quant) (vs : List Var) {A B : Formula} (h : FVLe A B) :
    FVLe (.quant q vs A) (.quant q vs B) := fun v hv => ⟨h v hv.1, hv.2⟩

theorem FVLe.congr : FormulaCongr FVLe :=
  ⟨FVLe.refl, FVLe.trans, FVLe.not, fun c => FVLe.bin c, fun q vs => FVLe.quant q vs⟩

/-- what every intuitionistic rewrite keeps (`G` the result, `F` the input) -/
def HTKeeps (G F : Formula) : Prop := HTEquiv G F ∧ FVLe G F

/-- what every rewrite keeps -/
def ClassKeeps (G F : Formula) : Prop := ClassEquiv G F ∧ FVLe G F

theorem HTKeeps.congr : FormulaCongr HTKeeps := HTEquiv.congr.and FVLe.congr
theorem ClassKeeps.congr : FormulaCongr ClassKeeps := ClassEquiv.congr.and FVLe.congr

theorem HTKeeps.toClass {G F : Formula} (h : HTKeeps G F) : ClassKeeps G F := ⟨h.1.toClass, h.2⟩

theorem FV_tru (v : Var) : ¬ Formula.tru.FV v := fun h => nomatch h
theorem FV_fls (v : Var) : ¬ Formula.fls.FV v := fun h => nomatch h

theorem FV_foldl_and {l : List Formula} {acc : Formula} {v : Var} :
    (l.foldl (fun acc e => Formula.bin .and acc e) acc).FV v ↔ acc.FV v ∨ ∃ g ∈ l, g.FV v := by
  induction l generalizing acc with
  | nil => exact ⟨Or.inl, fun h => h.elim id fun ⟨_, hg, _⟩ => nomatch hg⟩
  | cons e l ih =>
    simp only [List.foldl_cons, ih, List.mem_cons, exists_eq_or_imp]
    exact or_assoc

theorem conjoin_FV {fs : List Formula} {v : Var} : (conjoin fs).FV v ↔ ∃ f ∈ fs, f.FV v := by
  cases fs with
  | nil => exact ⟨fun h => absurd h (FV_tru v), fun ⟨_, hf, _⟩ => nomatch hf⟩
  | cons f fs => exact FV_foldl_and.trans (by simp only [List.mem_cons, exists_eq_or_imp])

theorem FV_of_mem_conjoin {fs : List Formula} {f : Formula} {v : Var} (hf : f ∈ fs) (h : f.FV v) :
    (conjoin fs).FV v :=
  conjoin_FV.mpr ⟨f, hf, h⟩

theorem mem_cmp_vars {t : GTerm} {gs : List Guard} {v : Var} :
    v ∈ (AtomicF.cmp t gs).vars ↔ v ∈ t.vars ∨ ∃ g ∈ gs, v ∈ g.term.vars := by
  simp only [AtomicF.vars]
  rw [mem_foldl_ext]

theorem FV_conjoinInvert {f c : Formula} {v : Var} (hc : c ∈ conjoinInvert f) (hv : c.FV v) : f.FV v := by
  induction f with
  | bin cn l r ihl ihr =>
    cases cn with
    | and =>
      simp only [conjoinInvert, List.mem_append] at hc
      rcases hc with hc | hc
      · exact Or.inl (ihl hc)
      · exact Or.inr (ihr hc)
    | or | imp | rimp | iff => simp only [conjoinInvert, List.mem_singleton] at hc; subst hc; exact hv
  | atomic _ | not _ _ | quant _ _ _ _ => simp only [conjoinInvert, List.mem_singleton] at hc; subst hc; exact hv

end Anthem
