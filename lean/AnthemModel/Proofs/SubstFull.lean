/-
  Substitution lemma, part 2: the general case including the renaming of captured binders
  (C17), with no side condition: a block may bind the same variable twice (`alpha_step` covers the
  shadowed binder). `NodupBinders` is the property that no block does; `quantify` preserves it.
-/
import AnthemModel.Proofs.SubstBasic
import AnthemModel.Proofs.ChooseFresh
namespace Anthem

def NodupBinders : Formula → Prop
  | .atomic _ => True
  | .not f => NodupBinders f
  | .bin _ l r => NodupBinders l ∧ NodupBinders r
  | .quant _ vs f => vs.Nodup ∧ NodupBinders f

theorem toTerm_vars (v : Var) : v.toTerm.vars = [v] := by
  obtain ⟨n, s⟩ := v
  cases s <;> simp [Var.toTerm, GTerm.vars, ITerm.vars, STerm.vars]

theorem var_for_var_compat (v w : Var) (h : w.sort = v.sort) : SortCompatible v w.toTerm := by
  obtain ⟨vn, vs⟩ := v
  obtain ⟨wn, ws⟩ := w
  simp only at h
  subst h
  cases ws <;> simp [SortCompatible, Var.toTerm]

theorem ITerm.mem_vars_subst {t : ITerm} {x : String} {s : ITerm} {u : Var}
    (h : u ∈ (t.subst x s).vars) : (u ∈ t.vars ∧ u ≠ ⟨x, .integer⟩) ∨ u ∈ s.vars := by
  induction t with
  | num _ | fc _ => exact nomatch h
  | var y =>
    by_cases hxy : x = y
    · exact Or.inr (by rwa [ITerm.subst, if_pos hxy] at h)
    · rw [ITerm.subst, if_neg hxy] at h
      exact Or.inl ⟨h, fun e => hxy (Var.mk.inj (e ▸ List.eq_of_mem_singleton h :)).1⟩
  | neg t ih => exact ih h
  | bin op l r ihl ihr =>
    simp only [ITerm.subst, ITerm.vars, mem_ext] at h ⊢
    rcases h with h | h
    · exact (ihl h).imp (fun a => ⟨Or.inl a.1, a.2⟩) id
    · exact (ihr h).imp (fun a => ⟨Or.inr a.1, a.2⟩) id

theorem STerm.mem_vars_subst {t : STerm} {x : String} {s : STerm} {u : Var}
    (h : u ∈ (t.subst x s).vars) : (u ∈ t.vars ∧ u ≠ ⟨x, .symbol⟩) ∨ u ∈ s.vars := by
  cases t with
  | sym _ | fc _ => exact nomatch h
  | var y =>
    by_cases hxy : x = y
    · exact Or.inr (by rwa [STerm.subst, if_pos hxy] at h)
    · rw [STerm.subst, if_neg hxy] at h
      exact Or.inl ⟨h, fun e => hxy (Var.mk.inj (e ▸ List.eq_of_mem_singleton h :)).1⟩

theorem GTerm.mem_vars_subst {t : GTerm} {v : Var} {s : GTerm} (hc : SortCompatible v s) {u : Var}
    (h : u ∈ (t.subst v s).vars) : (u ∈ t.vars ∧ u ≠ v) ∨ u ∈ s.vars := by
  obtain ⟨vn, vs⟩ := v
  cases t with
  | inf | sup | fc _ => exact nomatch h
  | var y =>
    by_cases hv : vn = y ∧ vs = .general
    · exact Or.inr (by rwa [GTerm.subst, if_pos hv] at h)
    · rw [GTerm.subst, if_neg hv] at h
      have e := List.eq_of_mem_singleton h
      exact Or.inl ⟨h, fun e' => hv ⟨(Var.mk.inj (e' ▸ e :)).1, (Var.mk.inj (e' ▸ e :)).2⟩⟩
  | int it =>
    by_cases hs : vs = .integer
    · subst hs
      obtain ⟨si, rfl⟩ := hc.1 rfl
      exact ITerm.mem_vars_subst (by rwa [GTerm.subst, if_pos rfl] at h)
    · change u ∈ (if vs = .integer then _ else GTerm.int it).vars at h
      rw [if_neg hs] at h
      exact Or.inl ⟨h, fun e => hs (e ▸ ITerm.vars_sort h :)⟩
  | symb st =>
    by_cases hs : vs = .symbol
    · subst hs
      obtain ⟨ss, rfl⟩ := hc.2 rfl
      exact STerm.mem_vars_subst (by rwa [GTerm.subst, if_pos rfl] at h)
    · change u ∈ (if vs = .symbol then _ else GTerm.symb st).vars at h
      rw [if_neg hs] at h
      exact Or.inl ⟨h, fun e => hs (e ▸ STerm.vars_sort h :)⟩

theorem AtomicF.mem_vars_subst {a : AtomicF} {v : Var} {s : GTerm} (hc : SortCompatible v s)
    {u : Var} (h : u ∈ (a.subst v s).vars) : (u ∈ a.vars ∧ u ≠ v) ∨ u ∈ s.vars := by
  cases a with
  | tru | fls => exact nomatch h
  | atom a =>
    simp only [AtomicF.subst, AtomicF.vars, mem_foldl_ext, List.not_mem_nil, false_or,
      List.mem_map] at h ⊢
    obtain ⟨t', ⟨t, ht, rfl⟩, hu⟩ := h
    exact (GTerm.mem_vars_subst hc hu).imp (fun a => ⟨⟨t, ht, a.1⟩, a.2⟩) id
  | cmp t gs =>
    simp only [AtomicF.subst, AtomicF.vars, mem_foldl_ext, List.mem_map] at h ⊢
    rcases h with h | ⟨g', ⟨g, hg, rfl⟩, hu⟩
    · exact (GTerm.mem_vars_subst hc h).imp (fun a => ⟨Or.inl a.1, a.2⟩) id
    · exact (GTerm.mem_vars_subst hc hu).imp (fun a => ⟨Or.inr ⟨g, hg, a.1⟩, a.2⟩) id

theorem quantify_depth (X : Formula) (q : Quant) (vs : List Var) :
    (X.quantify q vs).depth ≤ X.depth + 1 := by
  cases vs with
  | nil => exact Nat.le_succ _
  | cons v vs => exact Nat.le_refl _

theorem quantify_nodup (X : Formula) (q : Quant) (vs : List Var) (h1 : vs.Nodup)
    (h2 : NodupBinders X) : NodupBinders (X.quantify q vs) := by
  unfold Formula.quantify
  split
  · exact h2
  · exact ⟨h1, h2⟩

/-- If `x` is bound again later in the block its first binding is shadowed and the value of `fr` is
    arbitrary; the statement covers both cases. -/
theorem alpha_step (M : HTI) (w : World) (body : Formula) (q : Quant) (xs : List Var) (x fr : Var)
    (ρ : Asg) (hfx : fr ∉ xs) (hne : fr ≠ x) (hfv : ¬ body.FV fr) (hs : fr.sort = x.sort) :
    bindQ q (fr :: xs) (fun σ => ht M body w (σ.set x (zval σ fr))) ρ ↔
      bindQ q (x :: xs) (ht M body w) ρ := by
  have hfr : ∀ {u}, body.FV u → u ≠ fr := fun hu e => hfv (e ▸ hu)
  refine bindQ_transfer (fun τ hτ => ?_) (fun τ' hτ' => ?_)
  · -- `x` takes the value of `fr`, and `fr` its old value
    have hd : (τ fr).inSort x.sort := hs ▸ hτ.2 fr List.mem_cons_self
    refine ⟨(τ.set x (τ fr)).set fr (ρ fr), ⟨fun u hu => ?_, fun u hu => ?_⟩, ?_⟩
    · by_cases e1 : u = fr
      · subst e1; exact Asg.set_same _ _ _
      · have hu' := not_or.mp fun h => hu (List.mem_cons.mpr h)
        rw [Asg.set_other _ _ e1, Asg.set_other _ _ hu'.1]
        exact hτ.1 u fun h => (List.mem_cons.mp h).elim e1 hu'.2
    · have e1 : u ≠ fr := fun e => (List.mem_cons.mp hu).elim (fun h => hne (e ▸ h)) (fun h => hfx (e ▸ h))
      rw [Asg.set_other _ _ e1]
      by_cases e2 : u = x
      · subst e2; rw [Asg.set_same]; exact hd
      · rw [Asg.set_other _ _ e2]
        exact hτ.2 u (List.mem_cons_of_mem _ ((List.mem_cons.mp hu).resolve_left e2))
    · rw [zval_of_inSort (hτ.2 fr List.mem_cons_self)]
      exact ht_agree M body w _ _ fun u hu => (Asg.set_other _ _ (hfr hu)).symm
  · -- `fr` takes the value of `x`; `x` gets its old value back unless it is bound again
    have hd : (τ' x).inSort fr.sort := hs ▸ hτ'.2 x List.mem_cons_self
    refine ⟨(τ'.set x (if x ∈ xs then τ' x else ρ x)).set fr (τ' x), ⟨fun u hu => ?_, fun u hu => ?_⟩, ?_⟩
    · have hu' := not_or.mp fun h => hu (List.mem_cons.mpr h)
      rw [Asg.set_other _ _ hu'.1]
      by_cases e2 : u = x
      · subst e2; rw [Asg.set_same, if_neg hu'.2]
      · rw [Asg.set_other _ _ e2]
        exact hτ'.1 u fun h => (List.mem_cons.mp h).elim e2 hu'.2
    · by_cases e1 : u = fr
      · subst e1; rw [Asg.set_same]; exact hd
      · have hux := (List.mem_cons.mp hu).resolve_left e1
        rw [Asg.set_other _ _ e1]
        by_cases e2 : u = x
        · subst e2; rw [Asg.set_same, if_pos hux]; exact hτ'.2 u List.mem_cons_self
        · rw [Asg.set_other _ _ e2]; exact hτ'.2 u (List.mem_cons_of_mem _ hux)
    · have : zval ((τ'.set x (if x ∈ xs then τ' x else ρ x)).set fr (τ' x)) fr = τ' x := by
        rw [zval_of_inSort (by rw [Asg.set_same]; exact hd), Asg.set_same]
      rw [this]
      refine ht_agree M body w _ _ fun u hu => ?_
      by_cases e2 : u = x
      · subst e2; rw [Asg.set_same]
      · rw [Asg.set_other _ _ e2, Asg.set_other _ _ (hfr hu), Asg.set_other _ _ e2]

theorem bindQ_cons_congr {q : Quant} {x : Var} {L L' : List Var} {P P' : Asg → Prop}
    (h : ∀ ρ, bindQ q L P ρ ↔ bindQ q L' P' ρ) (ρ : Asg) :
    bindQ q (x :: L) P ρ ↔ bindQ q (x :: L') P' ρ := by
  cases q
  · exact forall_congr' fun d => imp_congr_right fun _ => h _
  · exact exists_congr fun d => and_congr_right fun _ => h _

structure SubstSpec (M : HTI) (g' g : Formula) (v : Var) (s : GTerm) : Prop where
  sem : ∀ w ρ, ht M g' w ρ ↔ ht M g w (ρ.set v (s.eval M.fc ρ))
  depth : g'.depth ≤ g.depth
  fv : ∀ u, g'.FV u → (g.FV u ∧ u ≠ v) ∨ u ∈ s.vars

theorem SubstSpec.atomic (M : HTI) {v : Var} {s : GTerm} (hc : SortCompatible v s) (a : AtomicF) :
    SubstSpec M (.atomic (a.subst v s)) (.atomic a) v s :=
  ⟨fun _ ρ => a.sat_subst _ _ ρ v s hc, Nat.le_refl _, fun _ => AtomicF.mem_vars_subst hc⟩

theorem SubstSpec.not {M : HTI} {g' g : Formula} {v : Var} {s : GTerm} (h : SubstSpec M g' g v s) :
    SubstSpec M (.not g') (.not g) v s :=
  ⟨fun _ ρ => not_congr (h.sem .there ρ), Nat.succ_le_succ h.depth, h.fv⟩

theorem SubstSpec.bin {M : HTI} {l' l r' r : Formula} {v : Var} {s : GTerm} (c : Conn)
    (hl : SubstSpec M l' l v s) (hr : SubstSpec M r' r v s) :
    SubstSpec M (.bin c l' r') (.bin c l r) v s :=
  ⟨fun w ρ => ht_subst_bin c (fun w => hl.sem w ρ) (fun w => hr.sem w ρ) w,
    Nat.succ_le_succ (Nat.max_le.mpr ⟨Nat.le_trans hl.depth (Nat.le_max_left ..),
      Nat.le_trans hr.depth (Nat.le_max_right ..)⟩),
    fun u hu => hu.elim (fun h => (hl.fv u h).imp (fun a => ⟨Or.inl a.1, a.2⟩) id)
      (fun h => (hr.fv u h).imp (fun a => ⟨Or.inr a.1, a.2⟩) id)⟩

theorem SubstSpec.bound (M : HTI) {v : Var} {vs : List Var} (hv : v ∈ vs) (q : Quant) (f : Formula)
    (s : GTerm) : SubstSpec M (.quant q vs f) (.quant q vs f) v s :=
  ⟨fun w ρ => ht_subst_bound M hv q f w ρ _, Nat.le_refl _,
    fun _ hu => Or.inl ⟨hu, fun e => hu.2 (e ▸ hv)⟩⟩

theorem SubstSpec.binders {M : HTI} {g' g : Formula} {v : Var} {s : GTerm} {vs : List Var}
    (h : SubstSpec M g' g v s) (hv : v ∉ vs) (hs : ∀ x ∈ vs, x ∉ s.vars) (q : Quant) :
    SubstSpec M (g'.quantify q vs) (.quant q vs g) v s :=
  ⟨ht_subst_binders h.sem hv hs q,
    Nat.le_trans (quantify_depth g' q vs) (Nat.succ_le_succ h.depth),
    fun u hu => have hu' := (quantify_FV g' q vs u).mp hu
      (h.fv u hu'.1).imp (fun a => ⟨⟨a.1, hu'.2⟩, a.2⟩) id⟩

theorem SubstSpec.of_equiv {M : HTI} {g' g₁ g : Formula} {v : Var} {s : GTerm}
    (h : SubstSpec M g' g₁ v s) (hsem : ∀ w ρ, ht M g₁ w ρ ↔ ht M g w ρ)
    (hdepth : g₁.depth ≤ g.depth) (hfv : ∀ u, g₁.FV u → g.FV u) : SubstSpec M g' g v s :=
  ⟨fun w ρ => (h.sem w ρ).trans (hsem w _), Nat.le_trans h.depth hdepth,
    fun u hu => (h.fv u hu).imp (fun a => ⟨hfv u a.1, a.2⟩) id⟩

def SubOK (M : HTI) (sub : Formula → Var → GTerm → Formula) (n : Nat) : Prop :=
  ∀ g, g.depth ≤ n → ∀ v s, SortCompatible v s → SubstSpec M (sub g v s) g v s

structure LoopOK (M : HTI) (tv xs : List Var) (body : Formula) (taken : List Var)
    (r : Formula × List Var) : Prop where
  depth : r.1.depth ≤ body.depth
  vars : ∀ y ∈ r.2, y ∉ tv ∧ (y ∈ xs ∨ y ∉ taken)
  fv : ∀ u, r.1.FV u → u ∉ r.2 → body.FV u ∧ u ∉ xs
  sem : ∀ q w ρ, bindQ q r.2 (ht M r.1 w) ρ ↔ bindQ q xs (ht M body w) ρ

theorem renameLoop_ok (M : HTI) (sub : Formula → Var → GTerm → Formula) (n : Nat)
    (hok : SubOK M sub n) (tv : List Var) :
    ∀ (xs : List Var) (body : Formula) (taken : List Var), body.depth ≤ n →
      (∀ u, body.FV u → u ∈ taken) → (∀ u ∈ tv, u ∈ taken) → (∀ u ∈ xs, u ∈ taken) →
      LoopOK M tv xs body taken (renameLoop sub tv xs body taken) := by
  intro xs
  induction xs with
  | nil =>
    intro body taken _ _ _ _
    exact ⟨Nat.le_refl _, fun _ h => (nomatch h), fun u h _ => ⟨h, List.not_mem_nil⟩, fun _ _ _ => Iff.rfl⟩
  | cons x xs ih =>
    intro body taken hd hfvt htv hxt
    have hxt' : ∀ u ∈ xs, u ∈ taken := fun u hu => hxt u (List.mem_cons_of_mem _ hu)
    by_cases hx : x ∈ tv
    · -- the binder is captured: rename it
      simp only [renameLoop, hx, if_true]
      have hfrT : freshVar x taken ∉ taken := freshVar_not_mem x taken
      have hfrS : (freshVar x taken).sort = x.sort := freshVar_sort x taken
      generalize freshVar x taken = fr at hfrT hfrS
      have hne : fr ≠ x := fun e => hfrT (e ▸ hxt x List.mem_cons_self)
      have hfrxs : fr ∉ xs := fun h => hfrT (hxt' fr h)
      have hb := hok body hd x fr.toTerm (var_for_var_compat x fr hfrS)
      have hbfv : ∀ u, (sub body x fr.toTerm).FV u → (body.FV u ∧ u ≠ x) ∨ u = fr := fun u hu =>
        (hb.fv u hu).imp id fun h => List.eq_of_mem_singleton (toTerm_vars fr ▸ h)
      have hrec := ih (sub body x fr.toTerm) (ins taken fr) (Nat.le_trans hb.depth hd)
        (fun u hu => mem_ins.mpr ((hbfv u hu).imp (fun h => hfvt u h.1) id))
        (fun u hu => mem_ins.mpr (Or.inl (htv u hu)))
        (fun u hu => mem_ins.mpr (Or.inl (hxt' u hu)))
      refine ⟨Nat.le_trans hrec.depth hb.depth, ?_, ?_, ?_⟩
      · intro y hy
        rcases List.mem_cons.mp hy with rfl | hy'
        · exact ⟨fun h => hfrT (htv _ h), Or.inr hfrT⟩
        · exact ⟨(hrec.vars y hy').1, (hrec.vars y hy').2.imp (List.mem_cons_of_mem _)
            (fun h hm => h (mem_ins.mpr (Or.inl hm)))⟩
      · intro u hu hnot
        have hnot' := not_or.mp fun h => hnot (List.mem_cons.mpr h)
        obtain ⟨h1, h2⟩ := hrec.fv u hu hnot'.2
        rcases hbfv u h1 with ⟨h3, h4⟩ | h5
        · exact ⟨h3, fun h => (List.mem_cons.mp h).elim h4 h2⟩
        · exact absurd h5 hnot'.1
      · intro q w ρ
        rw [bindQ_cons_congr (hrec.sem q w) ρ,
          bindQ_congr (fun σ => (hb.sem w σ).trans (by rw [toTerm_eval])) ρ]
        exact alpha_step M w body q xs x fr ρ hfrxs hne (fun h => hfrT (hfvt fr h)) hfrS
    · -- the binder is kept
      simp only [renameLoop, hx, if_false]
      have hrec := ih body taken hd hfvt htv hxt'
      refine ⟨hrec.depth, ?_, ?_, fun q w => bindQ_cons_congr (hrec.sem q w)⟩
      · intro y hy
        rcases List.mem_cons.mp hy with rfl | hy'
        · exact ⟨hx, Or.inl List.mem_cons_self⟩
        · exact ⟨(hrec.vars y hy').1, (hrec.vars y hy').2.imp (List.mem_cons_of_mem _) id⟩
      · intro u hu hnot
        have hnot' := not_or.mp fun h => hnot (List.mem_cons.mpr h)
        obtain ⟨h1, h2⟩ := hrec.fv u hu hnot'.2
        exact ⟨h1, fun h => (List.mem_cons.mp h).elim hnot'.1 h2⟩

theorem substFuel_ok (M : HTI) : ∀ n, SubOK M (Formula.substFuel n) n := by
  intro n
  induction n with
  | zero =>
    intro g hd v s hc
    cases g with
    | atomic a => exact .atomic M hc a
    | not f | bin c l r | quant q vs f => exact absurd hd (Nat.not_succ_le_zero _)
  | succ n ih =>
    intro g hd v s hc
    cases g with
    | atomic a => exact .atomic M hc a
    | not f => exact (ih f (Nat.le_of_succ_le_succ hd) v s hc).not
    | bin c l r =>
      have hd' := Nat.le_of_succ_le_succ hd
      exact .bin c (ih l (Nat.le_trans (Nat.le_max_left ..) hd') v s hc)
        (ih r (Nat.le_trans (Nat.le_max_right ..) hd') v s hc)
    | quant q vs f =>
      have hdf : f.depth ≤ n := Nat.le_of_succ_le_succ hd
      by_cases hv : v ∈ vs
      · simp only [Formula.substFuel, if_pos hv]
        exact .bound M hv q f s
      · simp only [Formula.substFuel, if_neg hv]
        -- the names to avoid contain the free variables of the body, the variables of the term and the block
        have hL := renameLoop_ok M (Formula.substFuel n) n ih s.vars vs f (ins (ext (ext f.fv s.vars) vs) v) hdf
          (fun u hu => mem_ins.mpr (Or.inl (mem_ext.mpr (Or.inl (mem_ext.mpr (Or.inl (Formula.mem_fv.mpr hu)))))))
          (fun u hu => mem_ins.mpr (Or.inl (mem_ext.mpr (Or.inl (mem_ext.mpr (Or.inr hu))))))
          (fun u hu => mem_ins.mpr (Or.inl (mem_ext.mpr (Or.inr hu))))
        generalize renameLoop (Formula.substFuel n) s.vars vs f (ins (ext (ext f.fv s.vars) vs) v) = r at hL
        have hvr : v ∉ r.2 := fun hm => (hL.vars v hm).2.elim hv fun h => h (mem_ins.mpr (Or.inr rfl))
        refine ((ih r.1 (Nat.le_trans hL.depth hdf) v s hc).binders hvr (fun x hx => (hL.vars x hx).1) q).of_equiv
          (fun w ρ => ?_) (Nat.succ_le_succ hL.depth) (fun u hu => hL.fv u hu.1 hu.2)
        have := hL.sem q w ρ
        cases q <;> exact this

/-- The substitution lemma with no condition on the formula: repeated binders, binders naming
    variables of the term, several per block, fresh-name candidates taken. -/
theorem ht_subst (M : HTI) (F : Formula) (v : Var) (s : GTerm)
    (hc : SortCompatible v s) (w : World) (ρ : Asg) :
    ht M (F.subst v s) w ρ ↔ ht M F w (ρ.set v (s.eval M.fc ρ)) :=
  (substFuel_ok M (F.depth + 1) F (Nat.le_succ _) v s hc).sem w ρ

theorem sat_subst (I : Interp) (F : Formula) (v : Var) (s : GTerm)
    (hc : SortCompatible v s) (ρ : Asg) :
    sat I (F.subst v s) ρ ↔ sat I F (ρ.set v (s.eval I.fc ρ)) := by
  have := ht_subst ⟨I.pred, I.pred, I.fc⟩ F v s hc .there ρ
  rwa [ht_there_eq_sat, ht_there_eq_sat] at this

theorem subst_FV (F : Formula) (v : Var) (s : GTerm) (hc : SortCompatible v s)
    (u : Var) (hu : (F.subst v s).FV u) : (F.FV u ∧ u ≠ v) ∨ u ∈ s.vars :=
  (substFuel_ok ⟨fun _ _ => True, fun _ _ => True, fun _ _ => .inf⟩ (F.depth + 1) F (Nat.le_succ _) v s
    hc).fv u hu

end Anthem
