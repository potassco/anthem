/-
  Theories, specifications and user guides are all `(entry ~ ".")* ~ EOI` for an entry parser of
  their own; that such a parser inverts the printer is shown once (`DotParser.parse_print`), and
  theories are the first instance.
-/
import AnthemModel.Proofs.FolFormulaRT
namespace Anthem.Fol
open Anthem.Asp (skip Solid StartsSolid skip_cons_solid skip_of_startsSolid skip_newline)

section Dot
variable {α : Type}

/-- `parse` is `(entry ~ ".")* ~ EOI` with `dots` for the repetition: what `formulasDot`/`parseTheory`,
    `annotatedDot`/`parseSpecification` and `ugEntriesDot`/`parseUserGuide` do, branch by branch -/
structure DotParser (entry : List Char → Option (α × List Char)) (dots : Nat → List Char → List α × List Char)
    (parse : String → Option (List α)) : Prop where
  zero : ∀ cs, dots 0 cs = ([], cs)
  miss : ∀ n cs, entry (skip cs) = none → dots (n + 1) cs = ([], cs)
  dot : ∀ n cs a r r', entry (skip cs) = some (a, r) → skip r = '.' :: r' →
    dots (n + 1) cs = (a :: (dots n r').1, (dots n r').2)
  stop : ∀ n cs a r, entry (skip cs) = some (a, r) → (∀ r', skip r ≠ '.' :: r') → dots (n + 1) cs = ([], cs)
  eoi : ∀ s l, parse s = some l ↔ (dots (s.length + 1) s.toList).1 = l ∧ skip (dots (s.length + 1) s.toList).2 = []

def dotL (pr : α → String) : List α → List Char
  | [] => []
  | a :: as => (pr a).toList ++ '.' :: '\n' :: dotL pr as

theorem join_dot_toList (pr : α → String) (l : List α) :
    (String.join (l.map fun a => pr a ++ ".\n")).toList = dotL pr l := by
  induction l with
  | nil => rfl
  | cons a as ih =>
    simp only [List.map_cons, String.join_cons, String.toList_append, ih, dotL]
    simp

theorem dotL_length (pr : α → String) (l : List α) : l.length ≤ (dotL pr l).length := by
  induction l with
  | nil => exact Nat.le_refl _
  | cons a as ih => simp only [dotL, List.length_cons, List.length_append]; omega

variable {entry : List Char → Option (α × List Char)} {dots : Nat → List Char → List α × List Char}
  {parse : String → Option (List α)}

theorem DotParser.parse_print (P : DotParser entry dots parse) (Safe : α → Prop) (pr : α → String)
    (hnil : entry [] = none) (hsolid : ∀ a, Safe a → StartsSolid (pr a).toList)
    (hentry : ∀ a, Safe a → ∀ Z, entry ((pr a).toList ++ '.' :: Z) = some (a, '.' :: Z))
    (l : List α) (hl : ∀ a ∈ l, Safe a) :
    parse (String.join (l.map fun a => pr a ++ ".\n")) = some l := by
  have hskip : ∀ l : List α, (∀ a ∈ l, Safe a) → skip (dotL pr l) = dotL pr l := by
    intro l hl
    cases l with
    | nil => rfl
    | cons a as => exact skip_of_startsSolid ((hsolid a (hl a List.mem_cons_self)).append _)
  have key : ∀ (l : List α), (∀ a ∈ l, Safe a) → ∀ (cs : List Char) (n : Nat), skip cs = dotL pr l → l.length < n →
      (dots n cs).1 = l ∧ skip (dots n cs).2 = [] := by
    intro l
    induction l with
    | nil =>
      intro _ cs n hcs hn
      obtain ⟨n, rfl⟩ := Nat.exists_eq_add_one.mpr hn
      rw [P.miss n cs (by rw [hcs]; exact hnil)]
      exact ⟨rfl, hcs⟩
    | cons a as ih =>
      intro hl cs n hcs hn
      obtain ⟨n, rfl⟩ := Nat.exists_eq_add_one.mpr (Nat.zero_lt_of_lt hn)
      have has : ∀ b ∈ as, Safe b := fun b hb => hl b (List.mem_cons_of_mem _ hb)
      -- after the full stop the next entry, if any, starts on the next line
      obtain ⟨h1, h2⟩ := ih has ('\n' :: dotL pr as) n (by rw [skip_newline]; exact hskip as has)
        (Nat.lt_of_succ_lt_succ hn)
      rw [P.dot n cs a _ _ (by rw [hcs]; exact hentry a (hl a List.mem_cons_self) _)
        (skip_cons_solid _ (by decide : Solid '.')), h1]
      exact ⟨rfl, h2⟩
  generalize hs : String.join (l.map fun a => pr a ++ ".\n") = s
  have hd : s.toList = dotL pr l := by rw [← hs]; exact join_dot_toList pr l
  have hlen : l.length < s.length + 1 := by
    have := dotL_length pr l
    rw [← hd, String.length_toList] at this
    exact Nat.lt_succ_of_le this
  exact (P.eoi s l).mpr (key l hl s.toList _ (by rw [hd]; exact hskip l hl) hlen)

theorem DotParser.parse_all (P : DotParser entry dots parse) (Safe : α → Prop)
    (h : ∀ cs a r r', entry (skip cs) = some (a, r) → skip r = '.' :: r' → Safe a)
    {s : String} {l : List α} (hp : parse s = some l) : ∀ a ∈ l, Safe a := by
  have key : ∀ (n : Nat) (cs : List Char), ∀ a ∈ (dots n cs).1, Safe a := by
    intro n
    induction n with
    | zero => intro cs a ha; rw [P.zero] at ha; cases ha
    | succ n ih =>
      intro cs a ha
      cases he : entry (skip cs) with
      | none => rw [P.miss n cs he] at ha; cases ha
      | some x =>
        obtain ⟨a', r⟩ := x
        by_cases hdot : ∃ r', skip r = '.' :: r'
        · obtain ⟨r', hdot⟩ := hdot
          rw [P.dot n cs a' r r' he hdot] at ha
          rcases List.mem_cons.mp ha with rfl | ha
          · exact h cs a r r' he hdot
          · exact ih r' a ha
        · rw [P.stop n cs a' r he (fun r' e => hdot ⟨r', e⟩)] at ha; cases ha
  rw [← ((P.eoi s l).mp hp).1]
  exact key _ _

end Dot

theorem theoryParser : DotParser formulaTop formulasDot parseTheory where
  zero _ := rfl
  miss n cs h := by simp only [formulasDot, h]
  dot n cs a r r' h h' := by simp only [formulasDot, h, h']
  stop n cs a r h h' := by simp only [formulasDot, h]
  eoi s l := by
    simp only [parseTheory]
    split
    · next h => simp only [Option.some.injEq, h, and_true]
    · next h => exact ⟨nofun, fun e => absurd e.2 h⟩

def Theory.Safe (t : Theory) : Prop := ∀ F ∈ t, Formula.Safe F

theorem formulaTop_nil : formulaTop [] = none := by decide +kernel

theorem lexConn_dot (rest : List Char) : lexConn (skip ('.' :: rest)) = none := by
  rw [skip_cons_solid rest (by decide : Solid '.')]; rfl

theorem formulaTop_printL (F : Formula) (hF : Formula.Safe F) (rest : List Char) (hr : AtomicFollow rest)
    (hstop : lexConn (skip rest) = none) : formulaTop (Formula.printL F ++ rest) = some (F, rest) :=
  -- `formulaTop` runs `formulaL` on fuel `2 * length + 2`, which is `f + 1` for this `f`
  formulaL_printL F hF rest hr hstop (2 * (Formula.printL F ++ rest).length + 1) (by omega)

theorem parseTheory_printTheory (t : Theory) (ht : Theory.Safe t) : parseTheory (printTheory t) = some t := by
  refine theoryParser.parse_print Formula.Safe Formula.print formulaTop_nil (fun F hF => ?_) (fun F hF Z => ?_) t ht
  · rw [Formula.print_toList]; exact Formula.printL_startsSolid F hF
  · rw [Formula.print_toList]; exact formulaTop_printL F hF _ (atomicFollow_dot Z) (lexConn_dot Z)

end Anthem.Fol
