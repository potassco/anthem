/-
  The renaming of clashing private predicates (`ExternalTask.clashMap`, fix 06d5e1b): every new name is free
  (no predicate of the task, no other new name), so both sides can be read off one interpretation.
-/
import AnthemModel.Proofs.ExternalSem
namespace Anthem

theorem renExt_inj {i j : Nat} (h : renExt i = renExt j) : i = j := by
  unfold renExt at h
  have hne : ∀ n : Nat, "p" ≠ "p" ++ toString n := fun n hn =>
    Nat.repr_ne_empty ((String.append_right_inj "p").mp ((String.append_empty).trans hn)).symm
  by_cases hi : i = 0 <;> by_cases hj : j = 0
  · rw [hi, hj]
  · rw [if_pos hi, if_neg hj] at h; exact absurd h (hne j)
  · rw [if_neg hi, if_pos hj] at h; exact absurd h.symm (hne i)
  · rw [if_neg hi, if_neg hj] at h
    exact Nat.repr_injective ((String.append_right_inj _).mp h)

theorem renamedPred_inj (p : Pred) {i j : Nat} (h : renamedPred p (renExt i) = renamedPred p (renExt j)) : i = j := by
  simp only [renamedPred, Pred.mk.injEq, and_true] at h
  exact renExt_inj ((String.append_right_inj _).mp h)

theorem findExt_spec (occ : List Pred) (p : Pred) :
    ∀ (fuel i : Nat), (∃ j, i ≤ j ∧ j < i + fuel ∧ renamedPred p (renExt j) ∉ occ) →
      renamedPred p (renExt (findExt occ p fuel i)) ∉ occ := by
  intro fuel
  induction fuel with
  | zero => intro i ⟨j, h1, h2, _⟩; exact absurd (Nat.lt_of_le_of_lt h1 h2) (Nat.lt_irrefl _)
  | succ fuel ih =>
    intro i ⟨j, h1, h2, h3⟩
    rw [findExt]
    by_cases hmem : renamedPred p (renExt i) ∈ occ
    · rw [if_pos hmem]
      have hne : i ≠ j := fun e => h3 (e ▸ hmem)
      exact ih (i + 1) ⟨j, Nat.lt_of_le_of_ne h1 hne, by rw [Nat.add_assoc, Nat.add_comm 1]; exact h2, h3⟩
    · rw [if_neg hmem]; exact hmem

/-- among `occ.length + 1` candidates one is free -/
theorem exists_free (occ : List Pred) (p : Pred) :
    ∃ j, 0 ≤ j ∧ j < 0 + (occ.length + 1) ∧ renamedPred p (renExt j) ∉ occ := by
  obtain ⟨j, h1, h2, h3⟩ :=
    exists_not_mem_of_injective (fun j => renamedPred p (renExt j)) (fun _ _ => renamedPred_inj p) occ 0
  exact ⟨j, h1, by omega, h3⟩

theorem clashStep_free (occ : List Pred) (p : Pred) :
    renamedPred p (renExt (findExt occ p (occ.length + 1) 0)) ∉ occ :=
  findExt_spec occ p _ 0 (exists_free occ p)

structure ClashInv (occ0 : List Pred) (acc : List Pred × List (Pred × String)) : Prop where
  grows : ∀ q ∈ occ0, q ∈ acc.1
  occupied : ∀ x ∈ acc.2, renamedPred x.1 x.2 ∈ acc.1
  fresh : ∀ x ∈ acc.2, renamedPred x.1 x.2 ∉ occ0
  distinct : acc.2.Pairwise fun x y => renamedPred x.1 x.2 ≠ renamedPred y.1 y.2

theorem clashStep_inv (occ0 : List Pred) (acc : List Pred × List (Pred × String)) (p : Pred)
    (h : ClashInv occ0 acc) : ClashInv occ0 (clashStep acc p) := by
  obtain ⟨e, he, hfree⟩ : ∃ e, clashStep acc p = (acc.1 ++ [renamedPred p e], acc.2 ++ [(p, e)]) ∧
      renamedPred p e ∉ acc.1 := ⟨_, rfl, clashStep_free acc.1 p⟩
  rw [he]
  refine ⟨fun q hq => List.mem_append_left _ (h.grows q hq), fun x hx => ?_, fun x hx => ?_, ?_⟩
  · rcases List.mem_append.mp hx with hx | hx
    · exact List.mem_append_left _ (h.occupied x hx)
    · obtain rfl := List.mem_singleton.mp hx
      exact List.mem_append_right _ (List.mem_singleton.mpr rfl)
  · rcases List.mem_append.mp hx with hx | hx
    · exact h.fresh x hx
    · obtain rfl := List.mem_singleton.mp hx
      exact fun hin => hfree (h.grows _ hin)
  · refine List.pairwise_append.mpr ⟨h.distinct, List.pairwise_singleton _ _, fun x hx y hy heq => ?_⟩
    obtain rfl := List.mem_singleton.mp hy
    exact hfree (heq ▸ h.occupied x hx)

theorem clashFold_inv (occ0 : List Pred) (ps : List Pred) :
    ∀ acc, ClashInv occ0 acc → ClashInv occ0 (ps.foldl clashStep acc) := by
  induction ps with
  | nil => intro acc h; exact h
  | cons p ps ih => intro acc h; exact ih _ (clashStep_inv occ0 acc p h)

theorem clashFold_keys (ps : List Pred) :
    ∀ acc : List Pred × List (Pred × String),
      ((ps.foldl clashStep acc).2).map (·.1) = acc.2.map (·.1) ++ ps := by
  induction ps with
  | nil => intro acc; simp
  | cons p ps ih =>
    intro acc
    rw [List.foldl_cons, ih]
    simp [clashStep]

def ExternalTask.occupied (t : ExternalTask) : List Pred :=
  ext (ext t.userGuide.publicPreds t.specPrivate) t.progPrivate

theorem clashMap_inv (t : ExternalTask) :
    ClashInv t.occupied ((t.specPrivate.filter (· ∈ t.progPrivate)).foldl clashStep (t.occupied, [])) :=
  clashFold_inv _ _ _ ⟨fun _ h => h, fun _ h => absurd h List.not_mem_nil, fun _ h => absurd h List.not_mem_nil, List.Pairwise.nil⟩

theorem clashMap_fresh (t : ExternalTask) : ∀ x ∈ t.clashMap, renamedPred x.1 x.2 ∉ t.occupied :=
  (clashMap_inv t).fresh

theorem clashMap_injective (t : ExternalTask) :
    t.clashMap.Pairwise fun x y => renamedPred x.1 x.2 ≠ renamedPred y.1 y.2 :=
  (clashMap_inv t).distinct

theorem clashMap_keys (t : ExternalTask) :
    t.clashMap.map (·.1) = t.specPrivate.filter (· ∈ t.progPrivate) := by
  unfold ExternalTask.clashMap
  rw [clashFold_keys]
  rfl

theorem lookupExt_some {m : List (Pred × String)} {p : Pred} {e : String} (h : lookupExt m p = some e) :
    (p, e) ∈ m := by
  obtain ⟨x, hf, rfl⟩ := Option.map_eq_some_iff.mp h
  have h1 : x.1 = p := by simpa using List.find?_some hf
  exact h1 ▸ List.mem_of_find?_eq_some hf

theorem lookupExt_none {m : List (Pred × String)} {p : Pred} (h : lookupExt m p = none) :
    p ∉ m.map (·.1) := by
  rintro hin
  obtain ⟨x, hx, rfl⟩ := List.mem_map.mp hin
  simpa using List.find?_eq_none.mp (Option.map_eq_none_iff.mp h) x hx

theorem find?_of_pairwise_ne {α β} [DecidableEq β] (f : α → β) : ∀ {l : List α},
    (l.Pairwise fun x y => f x ≠ f y) → ∀ {x : α} {b : β}, x ∈ l → f x = b → l.find? (fun e => f e = b) = some x := by
  intro l
  induction l with
  | nil => intro _ x _ hx; cases hx
  | cons y l ih =>
    intro hd x b hx hb
    obtain ⟨hy, hl⟩ := List.pairwise_cons.mp hd
    rcases List.mem_cons.mp hx with rfl | hx
    · simp [hb]
    · rw [List.find?_cons_of_neg (by simpa [← hb] using hy x hx)]
      exact ih hl hx hb

/-- One interpretation carries both readings. This is what the renaming is for, and why the new names must
    be free (`q/1` and `q_p/1` private on the right, `q/1` private on the left: renaming `q` to `q_p` would
    force the readings of `q` and `q_p` to coincide). -/
theorem joint_reading (t : ExternalTask) (TL TR : PredI)
    (hagree : ∀ (q : String) (a : List Dom), (⟨q, a.length⟩ : Pred) ∈ t.userGuide.publicPreds → (TL q a ↔ TR q a)) :
    ∃ T : PredI,
      (∀ (q : String) (a : List Dom), (⟨q, a.length⟩ : Pred) ∈ ext t.userGuide.publicPreds t.specPrivate →
        (T q a ↔ TL q a)) ∧
      (∀ (q : String) (a : List Dom), (⟨q, a.length⟩ : Pred) ∈ ext t.userGuide.publicPreds t.progPrivate →
        (renamedInterp t.clashMap T q a ↔ TR q a)) := by
  -- `TL` on the specification side's vocabulary; elsewhere a new name is read as the predicate it stands for
  let T : PredI := fun q a =>
    if (⟨q, a.length⟩ : Pred) ∈ ext t.userGuide.publicPreds t.specPrivate then TL q a
    else match t.clashMap.find? (fun x => renamedPred x.1 x.2 = ⟨q, a.length⟩) with
      | some x => TR x.1.symbol a
      | none => TR q a
  refine ⟨T, fun q a hq => by simp only [T, if_pos hq], fun q a hq => ?_⟩
  unfold renamedInterp
  cases hl : lookupExt t.clashMap ⟨q, a.length⟩ with
  | some e =>
    -- the new name is free, hence outside the specification side, and stands for `q` only
    have hmem := lookupExt_some hl
    have hnot : (⟨q ++ "_" ++ e, a.length⟩ : Pred) ∉ ext t.userGuide.publicPreds t.specPrivate :=
      fun hin => clashMap_fresh t _ hmem (mem_ext.mpr (Or.inl hin))
    have hf := find?_of_pairwise_ne (fun x : Pred × String => renamedPred x.1 x.2) (clashMap_injective t) hmem
      (b := ⟨q ++ "_" ++ e, a.length⟩) rfl
    simp only [T, if_neg hnot, hf]
  | none =>
    have hkey := lookupExt_none hl
    rw [clashMap_keys] at hkey
    simp only
    by_cases hs : (⟨q, a.length⟩ : Pred) ∈ ext t.userGuide.publicPreds t.specPrivate
    · -- not renamed and on both sides: public
      simp only [T, if_pos hs]
      refine hagree q a ((mem_ext.mp hs).elim id fun h => (mem_ext.mp hq).elim id fun h' => ?_)
      exact absurd (List.mem_filter.mpr ⟨h, by simpa using h'⟩) hkey
    · simp only [T, if_neg hs]
      cases hf : t.clashMap.find? (fun x => renamedPred x.1 x.2 = ⟨q, a.length⟩) with
      | none => exact Iff.rfl
      | some x =>
        -- a predicate of the program side is no new name
        have hx1 : renamedPred x.1 x.2 = ⟨q, a.length⟩ := by simpa using List.find?_some hf
        refine absurd ?_ (hx1 ▸ clashMap_fresh t x (List.mem_of_find?_eq_some hf))
        exact (mem_ext.mp hq).elim (fun h => mem_ext.mpr (Or.inl (mem_ext.mpr (Or.inl h)))) fun h => mem_ext.mpr (Or.inr h)

end Anthem
