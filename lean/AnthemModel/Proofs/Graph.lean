/-
  The cycle test on the dependency graphs is exact: after `|nodes|` rounds the set `reach` collects
  is closed under successors, hence holds exactly the vertices reachable in at least one step. In an
  acyclic graph the number of reachable vertices is then a rank that strictly decreases along edges.
-/
import AnthemModel.Model.Analyze
import AnthemModel.Proofs.Agree
namespace Anthem.C11
open Asp

inductive Path (es : Edges) : Pred → Pred → Prop
  | step {a b} : (a, b) ∈ es → Path es a b
  | cons {a b c} : (a, b) ∈ es → Path es b c → Path es a c

theorem Path.trans {es : Edges} {a b c : Pred} (h₁ : Path es a b) (h₂ : Path es b c) :
    Path es a c := by
  induction h₁ with
  | step h => exact .cons h h₂
  | cons h _ ih => exact .cons h (ih h₂)

theorem mem_succs {es : Edges} {v w : Pred} : w ∈ succs es v ↔ (v, w) ∈ es := by
  simp only [succs, List.mem_map, List.mem_filter, decide_eq_true_eq]
  constructor
  · rintro ⟨⟨a, b⟩, ⟨h, rfl⟩, rfl⟩; exact h
  · intro h; exact ⟨(v, w), ⟨h, rfl⟩, rfl⟩

theorem mem_expand {es : Edges} {s : List Pred} {x : Pred} :
    x ∈ expand es s ↔ x ∈ s ∨ ∃ v ∈ s, (v, x) ∈ es := by
  simp only [expand, mem_foldl_ext, mem_succs]

theorem reach_sound {es : Edges} {v : Pred} : ∀ (n : Nat) (s : List Pred),
    (∀ x ∈ s, Path es v x) → ∀ x ∈ reach es n s, Path es v x := by
  intro n
  induction n with
  | zero => exact fun s h => h
  | succ n ih =>
    refine fun s h => ih (expand es s) fun y hy => ?_
    rcases mem_expand.mp hy with h1 | ⟨u, hu, he⟩
    · exact h y h1
    · exact (h u hu).trans (.step he)

theorem isCyclic_sound (nodes : List Pred) (es : Edges) (h : isCyclic nodes es = true) :
    ∃ v ∈ nodes, Path es v v := by
  simp only [isCyclic, List.any_eq_true, decide_eq_true_eq] at h
  obtain ⟨v, hv, hr⟩ := h
  exact ⟨v, hv, reach_sound _ _ (fun x hx => .step (mem_succs.mp hx)) v hr⟩

end Anthem.C11

namespace Anthem
open Asp C11

theorem reach_succ (es : Edges) : ∀ (k : Nat) (s : List Pred), reach es (k + 1) s = expand es (reach es k s) := by
  intro k
  induction k with
  | zero => intro s; rfl
  | succ k ih => intro s; rw [reach, ih (expand es s)]; rfl

theorem reach_mono (es : Edges) : ∀ (k : Nat) (s : List Pred), ∀ x ∈ s, x ∈ reach es k s := by
  intro k
  induction k with
  | zero => exact fun s x hx => hx
  | succ k ih => exact fun s x hx => reach_succ es k s ▸ mem_expand.mpr (Or.inl (ih s x hx))

def Closed (es : Edges) (S : List Pred) : Prop := ∀ v ∈ S, ∀ x, (v, x) ∈ es → x ∈ S

theorem closed_expand {es : Edges} {S : List Pred} (h : Closed es S) : ∀ x, x ∈ expand es S ↔ x ∈ S := by
  intro x
  rw [mem_expand]
  exact ⟨fun hx => hx.elim id (fun ⟨v, hv, he⟩ => h v hv x he), Or.inl⟩

theorem Closed.expand {es : Edges} {S : List Pred} (h : Closed es S) : Closed es (expand es S) :=
  fun v hv x he => (closed_expand h x).mpr (h v ((closed_expand h v).mp hv) x he)

theorem closed_reach {es : Edges} {S : List Pred} (h : Closed es S) : ∀ k x, x ∈ reach es k S ↔ x ∈ S := by
  intro k
  induction k generalizing S with
  | zero => exact fun x => Iff.rfl
  | succ k ih => exact fun x => (ih h.expand x).trans (closed_expand h x)

theorem closed_path {es : Edges} {S : List Pred} (h : Closed es S) {y x : Pred} (hy : y ∈ S)
    (hp : Path es y x) : x ∈ S := by
  induction hp with
  | step he => exact h _ hy _ he
  | cons he _ ih => exact ih (h _ hy _ he)

def cnt (nodes S : List Pred) : Nat := (nodes.filter (· ∈ S)).length

theorem cnt_le (nodes S : List Pred) : cnt nodes S ≤ nodes.length := List.length_filter_le _ _

/-- the smaller set's part of `nodes` is a filter of the larger set's part, and the filter drops `x` -/
theorem cnt_strict {nodes S S' : List Pred} (h : ∀ x ∈ S, x ∈ S') {x : Pred} (hxn : x ∈ nodes)
    (hx' : x ∈ S') (hx : x ∉ S) : cnt nodes S < cnt nodes S' := by
  have : nodes.filter (· ∈ S) = (nodes.filter (· ∈ S')).filter (· ∈ S) := by
    rw [List.filter_filter]
    refine List.filter_congr fun a _ => ?_
    by_cases ha : a ∈ S
    · rw [decide_eq_true ha, decide_eq_true (h a ha)]; rfl
    · rw [decide_eq_false ha]; rfl
  unfold cnt
  rw [this]
  exact List.length_filter_lt_length_iff_exists.mpr
    ⟨x, List.mem_filter.mpr ⟨hxn, decide_eq_true hx'⟩, fun hd => hx (of_decide_eq_true hd)⟩

theorem cnt_full {nodes S : List Pred} (h : cnt nodes S = nodes.length) : ∀ x ∈ nodes, x ∈ S :=
  fun x hx => of_decide_eq_true (List.length_filter_eq_length_iff.mp h x hx)

/-- a round that does not leave the set closed adds a vertex of `nodes`, so after `k` rounds the set is
    closed or holds at least `k` of them -/
theorem reach_closed (nodes : List Pred) (es : Edges) (htgt : ∀ e ∈ es, e.2 ∈ nodes) (s : List Pred) :
    Closed es (reach es nodes.length s) := by
  have key : ∀ k, Closed es (reach es k s) ∨ k ≤ cnt nodes (reach es k s) := by
    intro k
    induction k with
    | zero => exact Or.inr (Nat.zero_le _)
    | succ k ih =>
      rw [reach_succ]
      by_cases hc : Closed es (reach es k s)
      · exact Or.inl hc.expand
      · have hk := ih.resolve_left hc
        obtain ⟨v, hv, x, he, hx⟩ : ∃ v ∈ reach es k s, ∃ x, (v, x) ∈ es ∧ x ∉ reach es k s := by
          simpa only [Closed, Classical.not_forall, exists_prop, Classical.not_imp] using hc
        have := cnt_strict (nodes := nodes) (fun y hy => mem_expand.mpr (Or.inl hy))
          (htgt _ he) (mem_expand.mpr (Or.inr ⟨v, hv, he⟩)) hx
        exact Or.inr (Nat.lt_of_le_of_lt hk this)
  refine (key nodes.length).elim id fun hk v _ x he => ?_
  exact cnt_full (Nat.le_antisymm (cnt_le _ _) hk) x (htgt _ he)

theorem reach_exact (nodes : List Pred) (es : Edges) (htgt : ∀ e ∈ es, e.2 ∈ nodes) (v x : Pred) :
    x ∈ reach es nodes.length (succs es v) ↔ Path es v x := by
  constructor
  · exact fun hx => reach_sound _ _ (fun y hy => .step (mem_succs.mp hy)) x hx
  · intro hp
    have hcl := reach_closed nodes es htgt (succs es v)
    cases hp with
    | step he => exact reach_mono es _ _ _ (mem_succs.mpr he)
    | cons he hp' => exact closed_path hcl (reach_mono es _ _ _ (mem_succs.mpr he)) hp'

theorem isCyclic_complete (nodes : List Pred) (es : Edges) (htgt : ∀ e ∈ es, e.2 ∈ nodes)
    (h : ∃ v ∈ nodes, Path es v v) : isCyclic nodes es = true := by
  obtain ⟨v, hv, hp⟩ := h
  simp only [isCyclic, List.any_eq_true, decide_eq_true_eq]
  exact ⟨v, hv, (reach_exact nodes es htgt v v).mpr hp⟩

theorem isCyclic_iff (nodes : List Pred) (es : Edges) (htgt : ∀ e ∈ es, e.2 ∈ nodes) :
    isCyclic nodes es = true ↔ ∃ v ∈ nodes, Path es v v :=
  ⟨isCyclic_sound nodes es, isCyclic_complete nodes es htgt⟩

def rank (nodes : List Pred) (es : Edges) (v : Pred) : Nat :=
  cnt nodes (reach es nodes.length (succs es v))

theorem rank_lt (nodes : List Pred) (es : Edges) (htgt : ∀ e ∈ es, e.2 ∈ nodes)
    (hac : ∀ v, ¬ Path es v v) {a b : Pred} (hp : Path es a b) :
    rank nodes es b < rank nodes es a := by
  have hbn : b ∈ nodes := by
    induction hp with
    | step he => exact htgt _ he
    | cons _ _ ih => exact ih
  unfold rank
  refine cnt_strict (x := b) ?_ hbn ((reach_exact nodes es htgt a b).mpr hp) ?_
  · intro x hx
    exact (reach_exact nodes es htgt a x).mpr (hp.trans ((reach_exact nodes es htgt b x).mp hx))
  · intro hx
    exact hac b ((reach_exact nodes es htgt b b).mp hx)

theorem mem_bodyPosPreds {b : List BodyAtom} {q : Pred} : q ∈ bodyPosPreds b ↔ ∃ f ∈ b, q ∈ f.posPreds := by
  simp only [bodyPosPreds, mem_foldl_ext, List.not_mem_nil, false_or]

theorem mem_bodyPreds {b : List BodyAtom} {q : Pred} : q ∈ bodyPreds b ↔ ∃ f ∈ b, q ∈ f.preds := by
  simp only [bodyPreds, mem_foldl_ext, List.not_mem_nil, false_or]

theorem posPreds_sub_preds {f : BodyAtom} {q : Pred} (h : q ∈ f.posPreds) : q ∈ f.preds := by
  cases f with
  | lit l =>
    obtain ⟨s, a⟩ := l
    cases s <;> first | exact h | cases h
  | cmp _ _ _ => cases h

theorem mem_rule_preds {r : Rule} {q : Pred} :
    q ∈ r.preds ↔ r.head.predicate = some q ∨ q ∈ bodyPreds r.body := by
  rw [Rule.preds, mem_ext]
  cases r.head.predicate <;> simp [eq_comm]

theorem mem_program_preds {p : Program} {q : Pred} : q ∈ p.preds ↔ ∃ r ∈ p, q ∈ r.preds := by
  simp only [Program.preds, mem_foldl_ext, List.not_mem_nil, false_or]

theorem mem_positiveEdges {p : Program} {a b : Pred} :
    (a, b) ∈ positiveEdges p ↔ ∃ r ∈ p, r.head.predicate = some a ∧ b ∈ bodyPosPreds r.body := by
  simp only [positiveEdges, List.mem_flatMap]
  refine exists_congr fun r => and_congr_right fun _ => ?_
  cases r.head.predicate with
  | none => simp
  | some h =>
    simp only [List.mem_map, Prod.mk.injEq, Option.some.injEq]
    constructor
    · rintro ⟨_, hq, e, rfl⟩; exact ⟨e, hq⟩
    · rintro ⟨e, hq⟩; exact ⟨b, hq, e, rfl⟩

theorem positiveEdges_tgt (p : Program) : ∀ e ∈ positiveEdges p, e.2 ∈ p.preds := by
  intro ⟨a, b⟩ he
  obtain ⟨r, hr, _, hb⟩ := mem_positiveEdges.mp he
  obtain ⟨f, hf, hq⟩ := mem_bodyPosPreds.mp hb
  exact mem_program_preds.mpr ⟨r, hr, mem_rule_preds.mpr (Or.inr (mem_bodyPreds.mpr ⟨f, hf, posPreds_sub_preds hq⟩))⟩

theorem path_src_mem (p : Program) {a b : Pred} (h : Path (positiveEdges p) a b) : a ∈ p.preds := by
  obtain ⟨c, hc⟩ : ∃ c, (a, c) ∈ positiveEdges p := by
    cases h with
    | step he => exact ⟨_, he⟩
    | cons he _ => exact ⟨_, he⟩
  obtain ⟨r, hr, hh, _⟩ := mem_positiveEdges.mp hc
  exact mem_program_preds.mpr ⟨r, hr, mem_rule_preds.mpr (Or.inl hh)⟩

theorem isTight_iff (p : Program) : isTight p = true ↔ ∀ v, ¬ Path (positiveEdges p) v v := by
  unfold isTight
  rw [Bool.not_eq_true', ← Bool.not_eq_true, isCyclic_iff p.preds _ (positiveEdges_tgt p)]
  constructor
  · intro h v hp; exact h ⟨v, path_src_mem p hp, hp⟩
  · rintro h ⟨v, _, hp⟩; exact h v hp

end Anthem
