/-
  C02: without private recursion, whatever the extents of the other predicates, there are extents of the
  private predicates that make every private definition true. Constructed by iterating the "supported"
  operator as often as there are private predicates; a predicate's extent is final after (its rank + 1) rounds.
-/
import AnthemModel.Proofs.PrivateUnique
namespace Anthem
open Asp C11

def privStep (P : Program) (priv : List Pred) (fc : FcI) (T0 T : PredI) : PredI :=
  fun q ds => if (⟨q, ds.length⟩ : Pred) ∈ priv then SupportedBy P T fc q ds else T0 q ds

def privIter (P : Program) (priv : List Pred) (fc : FcI) (T0 : PredI) : Nat → PredI
  | 0 => T0
  | n + 1 => privStep P priv fc T0 (privIter P priv fc T0 n)

theorem privIter_nonpriv (P : Program) (priv : List Pred) (fc : FcI) (T0 : PredI) (n : Nat)
    (q : String) (ds : List Dom) (h : (⟨q, ds.length⟩ : Pred) ∉ priv) :
    privIter P priv fc T0 n q ds ↔ T0 q ds := by
  cases n with
  | zero => exact Iff.rfl
  | succ n => simp only [privIter, privStep, if_neg h]

theorem privIter_priv (P : Program) (priv : List Pred) (fc : FcI) (T0 : PredI) (n : Nat)
    (q : String) (ds : List Dom) (h : (⟨q, ds.length⟩ : Pred) ∈ priv) :
    privIter P priv fc T0 (n + 1) q ds ↔ SupportedBy P (privIter P priv fc T0 n) fc q ds := by
  simp only [privIter, privStep, if_pos h]

theorem rank_le (nodes : List Pred) (es : Edges) (v : Pred) : rank nodes es v ≤ nodes.length :=
  cnt_le _ _

theorem privIter_stable (P : Program) (priv : List Pred) (hrec : hasPrivateRecursion P priv = false)
    (fc : FcI) (T0 : PredI) :
    ∀ (n : Nat) (q : String) (ds : List Dom),
      rank (P.preds.filter (· ∈ priv)) (privateEdges P priv) ⟨q, ds.length⟩ < n →
      (privIter P priv fc T0 (n + 1) q ds ↔ privIter P priv fc T0 n q ds) := by
  intro n
  induction n with
  | zero => intro q ds h; exact absurd h (Nat.not_lt_zero _)
  | succ n ih =>
    intro q ds hrank
    by_cases hin : (⟨q, ds.length⟩ : Pred) ∈ priv
    · rw [privIter_priv P priv fc T0 (n + 1) q ds hin, privIter_priv P priv fc T0 n q ds hin]
      exact supportedBy_congr P priv hrec _ _ fc q ds hin
        (fun b ds' hb => by rw [privIter_nonpriv P priv fc T0 (n + 1) _ _ hb, privIter_nonpriv P priv fc T0 n _ _ hb])
        fun b ds' hlt => ih b ds' (Nat.lt_of_lt_of_le hlt (Nat.le_of_lt_succ hrank))
    · rw [privIter_nonpriv P priv fc T0 (n + 2) _ _ hin, privIter_nonpriv P priv fc T0 (n + 1) _ _ hin]

theorem private_extents_exist (P : Program) (priv : List Pred) (hrec : hasPrivateRecursion P priv = false)
    (T0 : PredI) (fc : FcI) :
    ∃ T : PredI,
      (∀ (q : String) (ds : List Dom), (⟨q, ds.length⟩ : Pred) ∉ priv → (T q ds ↔ T0 q ds)) ∧
      ∀ q ∈ priv, DefHolds P T fc q.symbol q.arity := by
  let L := (P.preds.filter (· ∈ priv)).length
  refine ⟨privIter P priv fc T0 (L + 1), fun q ds h => privIter_nonpriv P priv fc T0 _ q ds h, ?_⟩
  intro q hq
  rw [defHolds_iff_supportedBy]
  intro ds hds
  have hin : (⟨q.symbol, ds.length⟩ : Pred) ∈ priv := by rw [hds]; exact hq
  have hstab := privIter_stable P priv hrec fc T0 (L + 1) q.symbol ds
    (Nat.lt_succ_of_le (rank_le _ _ _))
  rw [← hstab]
  exact privIter_priv P priv fc T0 (L + 1) q.symbol ds hin

end Anthem
