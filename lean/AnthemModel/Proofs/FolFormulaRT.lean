/-
  `formulaL` reads `print F` back as `F`, for every safe formula `F`, whatever follows it
  (a closing parenthesis, a full stop, or a connective and its right operand).
-/
import AnthemModel.Proofs.FolWrongAlt
namespace Anthem.Fol
open Anthem.Asp (isWs skip skipAux stripPrefix isIdChar isNonzeroDigit SymName NoId StopsAt Solid StartsSolid
  takeWhile_append_stop noId_cons skip_cons_solid skip_of_startsSolid skip_space stripPrefix_head_ne parenLL
  parenLL_startsSolid)

def fseqT (f : Nat) (cs : List Char) : Option (List FTok × List Char) :=
  match foperand f cs with
  | some (ts, r) => some (ts ++ (ftailT f r).1, (ftailT f r).2)
  | none => none

theorem formulaL_succ (f : Nat) (cs : List Char) :
    formulaL (f + 1) cs = match fseqT f cs with
      | some (ts, r') => (match fpratt ts with | some g => some (g, r') | none => none)
      | none => none := by
  simp only [formulaL, fseqT]
  cases foperand f cs with
  | none => rfl
  | some p => rfl

theorem ftailT_succ (f : Nat) (cs : List Char) :
    ftailT (f + 1) cs = match lexConn (skip cs) with
      | some (c, r) => (match fseqT f (skip r) with
        | some (ts, r'') => (.op c :: ts, r'')
        | none => ([], cs))
      | none => ([], cs) := by
  simp only [ftailT, fseqT]
  cases lexConn (skip cs) with
  | none => rfl
  | some x =>
    obtain ⟨c, r⟩ := x
    simp only
    cases foperand f (skip r) with
    | none => rfl
    | some y => simp

theorem ftailT_stop (f : Nat) (rest : List Char) (h : lexConn (skip rest) = none) : ftailT f rest = ([], rest) := by
  cases f with
  | zero => rfl
  | succ f => rw [ftailT_succ, h]

theorem prefixesL_none (n : Nat) (first : Bool) (cs : List Char)
    (h : prefixL (if first then cs else skip cs) = none) : prefixesL n first cs = ([], cs) := by
  cases n with
  | zero => rfl
  | succ n => simp [prefixesL, h]

theorem prefixesL_succ_some (n : Nat) (first : Bool) (cs r : List Char) (t : FTok)
    (h : prefixL (if first then cs else skip cs) = some (t, r)) :
    prefixesL (n + 1) first cs = (t :: (prefixesL n false r).1, (prefixesL n false r).2) := by
  simp [prefixesL, h]

/-- the result of `formulaL` behind a `(`: no formula, or one that does not end in front of a `)`,
    so that `foperand` does not take the parenthesis for a parenthesised formula -/
def NotClosedF (o : Option (Formula × List Char)) : Prop :=
  o = none ∨ ∃ g r2, o = some (g, r2) ∧ ∀ r3, skip r2 ≠ ')' :: r3

theorem foperand_paren (f : Nat) (cs : List Char) (pres : List FTok) (r0 r1 r2 r3 : List Char) (g : Formula)
    (hp : prefixesL (cs.length + 1) true cs = (pres, r0)) (hr : skip r0 = '(' :: r1)
    (h1 : formulaL f (skip r1) = some (g, r2)) (h2 : skip r2 = ')' :: r3) :
    foperand (f + 1) cs = some (pres ++ [.prim g], r3) := by
  simp only [foperand, hp, hr, h1, h2]

theorem foperand_atomicL (f : Nat) (cs : List Char) (pres : List FTok) (r0 : List Char)
    (hp : prefixesL (cs.length + 1) true cs = (pres, r0))
    (hparen : ∀ r1, skip r0 = '(' :: r1 → NotClosedF (formulaL f (skip r1))) :
    foperand (f + 1) cs = (atomicL (skip r0)).map fun p => (pres ++ [.prim (.atomic p.1)], p.2) := by
  by_cases hc : ∃ r1, skip r0 = '(' :: r1
  · obtain ⟨r1, e⟩ := hc
    rcases hparen r1 e with h | ⟨g, r2, h, h2⟩
    · simp only [foperand, hp, e, h]
      cases atomicL ('(' :: r1) <;> rfl
    · simp only [foperand, hp, e, h]
      cases atomicL ('(' :: r1) <;> rfl
  · simp only [foperand, hp]
    split
    · rename_i x heq
      split at heq
      · rename_i r1 h1; exact absurd ⟨r1, h1⟩ hc
      · cases heq
    · cases atomicL (skip r0) <;> rfl

theorem fpratt_single (g : Formula) : fpratt [.prim g] = some g := by
  simp [fpratt, fprattExpr, fprattLoop]

theorem formulaL_none_of (W : List Char) (hs : skip W = W) (hp : prefixL W = none)
    (hparen : ∀ r1, W = '(' :: r1 → ∀ f, NotClosedF (formulaL f (skip r1)))
    (ha : atomicL W = none) : ∀ f, formulaL f W = none
  | 0 => rfl
  | 1 => rfl  -- `formulaL 1` calls `foperand 0`, which is `none`
  | f + 2 => by
    have h0 := prefixesL_none (W.length + 1) true W (by simpa using hp)
    rw [formulaL_succ, fseqT, foperand_atomicL f W [] W h0 (fun r1 e => hparen r1 (hs ▸ e) f), hs, ha]
    rfl

theorem atomL_none_of_symConst (cs : List Char) (h : lexSymConst cs = none) : atomL cs = none := by
  simp [atomL, h]

theorem comparisonL_before_close (l : ITerm) (hl : ITerm.WF l) (Z : List Char) :
    comparisonL (ITerm.printL l ++ ')' :: Z) = none := by
  have hg := gtermL_printL (.int l) hl (')' :: Z) (gfollow_paren Z)
  simp only [GTerm.printL] at hg
  simp only [comparisonL, hg, (atomicFollow_close Z).2.2]

/-- either no formula, or the `c` of `c$i`, which stops in front of `$` -/
theorem formulaL_iterm_text : ∀ (T : ITerm), ITerm.Safe T → ∀ (X : List Char),
    comparisonL (ITerm.printL T ++ X) = none → ∀ f, NotClosedF (formulaL f (ITerm.printL T ++ X)) := by
  -- by the size of the term: behind an opening parenthesis stands a smaller one
  have key : ∀ (n : Nat) (T : ITerm), sizeOf T < n → ITerm.Safe T → ∀ (X : List Char),
      comparisonL (ITerm.printL T ++ X) = none → ∀ f, NotClosedF (formulaL f (ITerm.printL T ++ X)) := by
    intro n
    induction n with
    | zero => intro T h; exact absurd h (Nat.not_lt_zero _)
    | succ n ih =>
      intro T hn hT X hcmp f
      obtain ⟨h1, h2⟩ := hash_words_none (.int T) hT X
      have hs := skip_of_startsSolid ((ITerm.printL_startsSolid T hT).append X)
      have hp := prefixL_iterm T hT X
      have hat : atomicL (ITerm.printL T ++ X) = (atomL (ITerm.printL T ++ X)).map fun p => (.atom p.1, p.2) := by
        simp only [atomicL, show stripPrefix _ (ITerm.printL T ++ X) = none from h1,
          show stripPrefix _ (ITerm.printL T ++ X) = none from h2, hcmp]
        cases atomL (ITerm.printL T ++ X) <;> rfl
      -- how the text begins: an opener, a constant `c$i`, a variable `X$i`
      rcases ITerm.printL_head T hT X with ⟨c, r, e, hc, hopen⟩ | ⟨l, Y, hl | hl, e⟩
      all_goals rw [e] at hs hp hat ⊢
      · -- a digit, `-` or `(`: no atom starts here, and what `(` encloses is no formula in front of its `)`
        refine Or.inl (formulaL_none_of _ hs hp (fun r1 e1 f' => ?_) ?_ f)
        · injection e1 with ec er
          obtain ⟨l, Z, hl, hlt, rfl⟩ := hopen ec
          rw [← er, skip_of_startsSolid ((ITerm.printL_startsSolid l hl).append _)]
          exact ih l (Nat.lt_of_lt_of_le hlt (Nat.le_of_lt_succ hn)) hl _ (comparisonL_before_close l hl Z) f'
        · rw [hat, atomL_none_of_symConst _
            (lexSymConst_none_of_head c r (opener_not_lower hc) (opener_ne hc (by decide)))]
          rfl
      · -- `c$i`: the atom `c` is read, and the formula ends in front of `$`
        have hatomic : atomicL (l ++ '$' :: 'i' :: Y) = some (.atom ⟨String.ofList l, []⟩, '$' :: 'i' :: Y) := by
          rw [hat]
          simp only [atomL, lexSymConst_append l ('$' :: 'i' :: Y) hl ⟨'$', _, rfl, by decide⟩,
            skip_cons_solid ('i' :: Y) (show Solid '$' from ⟨by decide, by decide⟩)]
          rfl
        have hsd : skip ('$' :: 'i' :: Y) = '$' :: 'i' :: Y := skip_cons_solid _ ⟨by decide, by decide⟩
        match f with
        | 0 => exact Or.inl rfl
        | 1 => exact Or.inl rfl
        | f + 2 =>
          have h0 := prefixesL_none ((l ++ '$' :: 'i' :: Y).length + 1) true _ (by simpa using hp)
          refine Or.inr ⟨.atomic (.atom ⟨String.ofList l, []⟩), '$' :: 'i' :: Y, ?_, fun r3 => ?_⟩
          · rw [formulaL_succ, fseqT, foperand_atomicL f _ [] _ h0
              (fun r1 e1 => absurd (hs ▸ e1) (name_not_paren (Or.inl hl) _ r1)), hs, hatomic]
            simp only [Option.map_some, ftailT_stop (f + 1) ('$' :: 'i' :: Y)
                (hsd ▸ lexConn_none_of_head _ _ (by decide) (by decide) (by decide) (by decide)), List.nil_append,
              List.append_nil, fpratt_single]
          · rw [hsd]; intro e'; injection e' with e' _; exact absurd e' (by decide)
      · -- `X$i`: no atom starts with a variable
        refine Or.inl (formulaL_none_of _ hs hp (fun r1 e1 => absurd e1 (name_not_paren (Or.inr hl) _ r1)) ?_ f)
        rw [hat, atomL_none_of_symConst _ (lexSymConst_uvName l _ hl)]
        rfl
  exact fun T => key _ T (Nat.lt_succ_self _)

/-- the prefix tokens the printer writes without parentheses in between -/
def chain : Formula → List FTok
  | .not g => .pneg :: (if parenPrefix g then [] else chain g)
  | .quant q vs g => .pquant q vs :: (if quantBodyParen g then [] else chain g)
  | _ => []

/-- what follows the chain: (is it parenthesised?, the formula) -/
def core : Formula → Bool × Formula
  | .not g => if parenPrefix g then (true, g) else core g
  | .quant _ _ g => if quantBodyParen g then (true, g) else core g
  | f => (false, f)

theorem parenPrefix_bin (c : Conn) (l r : Formula) : parenPrefix (.bin c l r) = true := by cases c <;> rfl

theorem parenPrefix_of_quantBody {g : Formula} (h : quantBodyParen g = false) : parenPrefix g = false := by
  cases g with
  | atomic a => rfl
  | not g => exact h
  | quant q vs g => exact h
  | bin c l r => exact h

/-- the two conditions differ only for an atomic body beginning with a variable, which is one token
    either way -/
theorem fflat_body (g : Formula) :
    (if parenPrefix g then [FTok.prim g] else fflat g) = if quantBodyParen g then [.prim g] else fflat g := by
  cases g with
  | atomic a => show fflat (.atomic a) = _; split <;> rfl
  | not _ => rfl
  | quant _ _ _ => rfl
  | bin _ _ _ => rfl

/-- `toks` is the prefix chain `ch` followed by the one primary `c.2`, which is an atomic formula
    unless it was parenthesised (`c.1`) -/
def Spine (toks ch : List FTok) (c : Bool × Formula) : Prop :=
  toks = ch ++ [.prim c.2] ∧ Formula.Safe c.2 ∧ (c.1 = false → ∃ a, c.2 = .atomic a)

theorem spine_step (g : Formula) (b : Bool) (t : FTok) (hb : b = false → parenPrefix g = false) (hg : Formula.Safe g)
    (ih : parenPrefix g = false → Spine (fflat g) (chain g) (core g)) :
    Spine (t :: (if b then [.prim g] else fflat g)) (t :: if b then [] else chain g)
      (if b then (true, g) else core g) := by
  cases b with
  | true => exact ⟨rfl, hg, fun h => nomatch h⟩
  | false =>
    obtain ⟨h1, h2, h3⟩ := ih (hb rfl)
    exact ⟨congrArg (t :: ·) h1, h2, h3⟩

theorem spine : ∀ (F : Formula), parenPrefix F = false → Formula.Safe F → Spine (fflat F) (chain F) (core F) := by
  intro F
  induction F with
  | atomic a => intro _ hF; exact ⟨rfl, hF, fun _ => ⟨a, rfl⟩⟩
  | not g ih => intro _ hF; exact spine_step g (parenPrefix g) .pneg id hF (ih · hF)
  | quant q vs g ih =>
    intro _ hF
    rw [show fflat (.quant q vs g) = .pquant q vs :: _ from congrArg (FTok.pquant q vs :: ·) (fflat_body g)]
    exact spine_step g (quantBodyParen g) (.pquant q vs) parenPrefix_of_quantBody hF.2.2 (ih · hF.2.2)
  | bin c l r _ _ => intro h; rw [parenPrefix_bin] at h; cases h

theorem lexVariable_none_of_uvar (cs : List Char) (h : lexUVar cs = none) : lexVariable cs = none := by
  simp [lexVariable, lexIntVar, lexSymVar, lexGenVar, h]

theorem body_no_variable (g : Formula) (hg : Formula.Safe g) (rest : List Char) :
    lexVariable (skip (' ' :: (parenLL (quantBodyParen g) (Formula.printL g) ++ rest))) = none := by
  rw [skip_space]
  cases hq : quantBodyParen g with
  | true => rw [parenLL_true]; exact lexVariable_skip_nonId '(' _ (by decide) ⟨by decide, by decide⟩
  | false =>
    rw [parenLL_false, skip_of_startsSolid ((Formula.printL_startsSolid g hg).append rest)]
    apply lexVariable_none_of_uvar
    cases g with
    | atomic a =>
      obtain ⟨c, r, e, _⟩ := AtomicF.printL_startsSolid a hg
      simp only [quantBodyParen, e, startsWithVarL, List.head?_cons, Bool.or_eq_false_iff, decide_eq_false_iff_not] at hq
      simp only [Formula.printL, e, List.cons_append]
      exact lexUVar_none_of_head c _ hq.2 hq.1
    | not g' => exact lexUVar_none_of_head 'n' _ (by decide) (by decide)
    | quant q vs g' => cases q <;> exact lexUVar_none_of_head _ _ (by decide) (by decide)
    | bin c l r => rw [show quantBodyParen (.bin c l r) = parenPrefix (.bin c l r) from rfl, parenPrefix_bin] at hq; cases hq

theorem prefixL_paren (r : List Char) : prefixL ('(' :: r) = none :=
  prefixL_head '(' r (by decide) (by decide) (by decide)

def PrefixesRead (first : Bool) (cs : List Char) (ch : List FTok) (c : Bool × Formula) (rest : List Char) : Prop :=
  ∃ cs', (∀ n, cs.length < n → prefixesL n first cs = (ch, cs')) ∧
    skip cs' = parenLL c.1 (Formula.printL c.2) ++ rest ∧ cs'.length ≤ cs.length

theorem prefixes_step (g : Formula) (hg : Formula.Safe g) (b : Bool) (t : FTok) (P rest : List Char)
    (hP : 0 < P.length)
    (hpre : prefixL (P ++ ' ' :: (parenLL b (Formula.printL g) ++ rest)) = some (t, ' ' :: (parenLL b (Formula.printL g) ++ rest)))
    (ih : b = false → ∀ (first : Bool) (cs : List Char),
      (if first then cs else skip cs) = Formula.printL g ++ rest → (Formula.printL g ++ rest).length ≤ cs.length →
      PrefixesRead first cs (chain g) (core g) rest)
    (first : Bool) (cs : List Char)
    (hcs : (if first then cs else skip cs) = P ++ ' ' :: (parenLL b (Formula.printL g) ++ rest))
    (hlen : (P ++ ' ' :: (parenLL b (Formula.printL g) ++ rest)).length ≤ cs.length) :
    PrefixesRead first cs (t :: (if b then [] else chain g)) (if b then (true, g) else core g) rest := by
  have hshort : (' ' :: (parenLL b (Formula.printL g) ++ rest)).length < cs.length := by
    rw [List.length_append] at hlen
    omega
  have hstep : ∀ n, cs.length < n + 1 → prefixesL (n + 1) first cs =
      (t :: (prefixesL n false (' ' :: (parenLL b (Formula.printL g) ++ rest))).1,
        (prefixesL n false (' ' :: (parenLL b (Formula.printL g) ++ rest))).2) :=
    fun n _ => prefixesL_succ_some n first cs _ t (hcs ▸ hpre)
  cases b with
  | true =>
    refine ⟨' ' :: (parenLL true (Formula.printL g) ++ rest), fun n hn => ?_, ?_, Nat.le_of_lt hshort⟩
    · obtain ⟨n0, rfl⟩ := Asp.fuel_succ hn
      rw [hstep n0 hn, prefixesL_none _ false _ (by
        rw [parenLL_true, if_neg Bool.false_ne_true, skip_space, skip_cons_solid _ ⟨by decide, by decide⟩]
        exact prefixL_paren _)]
      rfl
    · show skip (' ' :: (parenLL true (Formula.printL g) ++ rest)) = parenLL true (Formula.printL g) ++ rest
      rw [skip_space, parenLL_true]
      exact skip_cons_solid _ ⟨by decide, by decide⟩
  | false =>
    obtain ⟨cs', h1, h2, h3⟩ := ih rfl false (' ' :: (Formula.printL g ++ rest))
      (by rw [if_neg Bool.false_ne_true, skip_space]
          exact skip_of_startsSolid ((Formula.printL_startsSolid g hg).append rest)) (Nat.le_succ _)
    rw [parenLL_false] at hshort hstep
    refine ⟨cs', fun n hn => ?_, h2, Nat.le_trans h3 (Nat.le_of_lt hshort)⟩
    obtain ⟨n0, rfl⟩ := Asp.fuel_succ hn
    rw [hstep n0 hn, h1 n0 (Nat.lt_of_lt_of_le hshort (Nat.le_of_lt_succ hn))]
    rfl

theorem prefixes_printL : ∀ (F : Formula), parenPrefix F = false → Formula.Safe F → ∀ (rest : List Char), NoId rest →
    lexVariable (skip rest) = none → ∀ (first : Bool) (cs : List Char),
      (if first then cs else skip cs) = Formula.printL F ++ rest → (Formula.printL F ++ rest).length ≤ cs.length →
      PrefixesRead first cs (chain F) (core F) rest := by
  intro F
  induction F with
  | atomic a =>
    intro _ hF rest hr hv first cs hcs _
    refine ⟨cs, fun n _ => prefixesL_none n first cs (by rw [hcs]; exact prefixL_atomic a hF rest hr hv), ?_, Nat.le_refl _⟩
    have hsol := skip_of_startsSolid ((AtomicF.printL_startsSolid a hF).append rest)
    cases first with
    | true => rw [show cs = AtomicF.printL a ++ rest from hcs]; exact hsol
    | false => exact hcs
  | not g ih =>
    intro _ hF rest hr hv first cs hcs hlen
    exact prefixes_step g hF (parenPrefix g) .pneg ['n', 'o', 't'] rest (by decide) (prefixL_not _)
      (fun hb => ih hb hF rest hr hv) first cs hcs hlen
  | quant q vs g ih =>
    intro _ hF rest hr hv first cs hcs hlen
    have e : Formula.printL (.quant q vs g) ++ rest =
        (qwordL q ++ varsL vs) ++ ' ' :: (parenLL (quantBodyParen g) (Formula.printL g) ++ rest) := by
      simp only [Formula.printL, List.append_assoc, List.cons_append]
    rw [e] at hcs hlen
    exact prefixes_step g hF.2.2 (quantBodyParen g) (.pquant q vs) _ rest (by cases q <;> exact Nat.succ_pos _)
      (by rw [List.append_assoc]; exact prefixL_quant q vs hF.1 hF.2.1 _ (body_no_variable g hF.2.2 rest))
      (fun hb => ih (parenPrefix_of_quantBody hb) hF.2.2 rest hr hv) first cs hcs hlen
  | bin c l r _ _ => intro h; rw [parenPrefix_bin] at h; cases h

theorem skipAux_length_le (b : Bool) (cs : List Char) : (skipAux b cs).length ≤ cs.length := by
  induction cs generalizing b with
  | nil => cases b <;> exact Nat.le_refl _
  | cons c cs ih =>
    have s := fun b' => Nat.le_succ_of_le (ih b')
    cases b with
    | true =>
      unfold skipAux
      split
      · exact s false
      · exact s true
    | false =>
      unfold skipAux
      split
      · exact s false
      · split
        · exact s true
        · exact Nat.le_refl _
theorem skip_length_le (cs : List Char) : (skip cs).length ≤ cs.length := skipAux_length_le false cs

def FSeqOK (F : Formula) : Prop :=
  ∀ (rest : List Char) (toks' : List FTok) (r' : List Char), AtomicFollow rest →
    (∀ f, 2 * rest.length < f → ftailT f rest = (toks', r')) →
    ∀ f, 2 * (Formula.printL F ++ rest).length < f →
      fseqT f (Formula.printL F ++ rest) = some (fflat F ++ toks', r')

theorem formulaL_of_fseqOK {F : Formula} (hT : FSeqOK F) (rest : List Char) (hr : AtomicFollow rest)
    (hstop : lexConn (skip rest) = none) (f : Nat) (hf : 2 * (Formula.printL F ++ rest).length < f) :
    formulaL (f + 1) (Formula.printL F ++ rest) = some (F, rest) := by
  rw [formulaL_succ, hT rest [] rest hr (fun f' _ => ftailT_stop f' rest hstop) f hf]
  simp only [List.append_nil, fpratt_flat_eq]

theorem lexConn_close (rest : List Char) : lexConn (skip (')' :: rest)) = none := by
  rw [skip_cons_solid rest ⟨by decide, by decide⟩]
  exact lexConn_none_of_head _ _ (by decide) (by decide) (by decide) (by decide)

theorem fuel_tail {c : Char} {l : List Char} {f : Nat} (h : 2 * (c :: l).length < f) (k : Nat) :
    2 * l.length < f + k :=
  Nat.lt_of_le_of_lt (Nat.mul_le_mul_left 2 (Nat.le_succ l.length)) (Nat.lt_add_right k h)

theorem fseq_paren {X : Formula} (hT : FSeqOK X) (hX : Formula.Safe X) (rest : List Char) (toks' : List FTok)
    (r' : List Char) (htail : ∀ f, 2 * rest.length < f → ftailT f rest = (toks', r'))
    (f : Nat) (hf : 2 * ('(' :: (Formula.printL X ++ ')' :: rest)).length < f) :
    fseqT f ('(' :: (Formula.printL X ++ ')' :: rest)) = some (FTok.prim X :: toks', r') := by
  obtain ⟨f1, rfl, hf1⟩ := Asp.fuel_cons2 hf
  have hs : skip ('(' :: (Formula.printL X ++ ')' :: rest)) = '(' :: (Formula.printL X ++ ')' :: rest) :=
    skip_cons_solid _ ⟨by decide, by decide⟩
  have hsX := skip_of_startsSolid ((Formula.printL_startsSolid X hX).append (')' :: rest))
  have h0 := prefixesL_none (('(' :: (Formula.printL X ++ ')' :: rest)).length + 1) true _
    (by simpa using prefixL_paren (Formula.printL X ++ ')' :: rest))
  have h1 := formulaL_of_fseqOK hT (')' :: rest) (atomicFollow_close rest) (lexConn_close rest) f1 hf1
  have hop := foperand_paren (f1 + 1) _ [] _ _ _ rest X h0 hs (by rw [hsX]; exact h1)
    (skip_cons_solid rest ⟨by decide, by decide⟩)
  simp only [fseqT, hop, htail (f1 + 2) (fuel_tail (Asp.fuel_append_right hf1) 2), List.nil_append,
    List.singleton_append]

def fflatArg (b : Bool) (X : Formula) : List FTok := if b then [.prim X] else fflat X

theorem fseq_arg {X : Formula} (hT : FSeqOK X) (hX : Formula.Safe X) (b : Bool) (rest : List Char) (toks' : List FTok)
    (r' : List Char) (hr : AtomicFollow rest) (htail : ∀ f, 2 * rest.length < f → ftailT f rest = (toks', r'))
    (f : Nat) (hf : 2 * (parenLL b (Formula.printL X) ++ rest).length < f) :
    fseqT f (parenLL b (Formula.printL X) ++ rest) = some (fflatArg b X ++ toks', r') := by
  cases b with
  | true =>
    rw [parenLL_true] at hf ⊢
    exact fseq_paren hT hX rest toks' r' htail f hf
  | false =>
    rw [parenLL_false] at hf ⊢
    exact hT rest toks' r' hr htail f hf

theorem conn_lex (c : Conn) (Y : List Char) (hY : StartsSolid Y) :
    ∃ r, lexConn (skip (Conn.printL c ++ Y)) = some (c, r) ∧ skip r = Y := by
  refine ⟨' ' :: Y, ?_, (skip_space _).trans (skip_of_startsSolid hY)⟩
  rw [skip_conn]
  unfold lexConn
  rw [conn_keywords.1, conn_keywords.2.1, conn_keywords.2.2.1, conn_keywords.2.2.2.1, conn_keywords.2.2.2.2]
  cases c <;> rfl

theorem Conn.printL_length (c : Conn) : 4 ≤ (Conn.printL c).length := by cases c <;> decide

theorem fuel_conn (c : Conn) {T : List Char} {f : Nat} (h : 2 * (Conn.printL c ++ T).length < f + 1) :
    2 * T.length < f := by
  have := Conn.printL_length c
  rw [List.length_append] at h
  omega

/-- an atomic formula whose text starts with `(` is a comparison starting with a parenthesised
    integer term -/
theorem atomic_paren_notclosed (a : AtomicF) (ha : AtomicF.Safe a) (rest r1 : List Char)
    (e : AtomicF.printL a ++ rest = '(' :: r1) : ∀ f, NotClosedF (formulaL f (skip r1)) := by
  have hash : ∀ (w Y : List Char), ('#' :: w) ++ Y ≠ '(' :: r1 := by
    intro w Y e'; injection e' with e1 _; exact absurd e1 (by decide)
  cases a with
  | tru => exact absurd e (hash _ _)
  | fls => exact absurd e (hash _ _)
  | atom at' =>
    obtain ⟨X, eX, _⟩ := Atom.printL_text at' rest
    exact absurd (eX.symm.trans e) (name_not_paren (Or.inl ha.1.1) X r1)
  | cmp t gs =>
    simp only [AtomicF.printL, List.append_assoc] at e
    rcases GTerm.printL_head t ha.1.1 (guardsPrintL gs ++ rest) with ⟨it, rfl⟩ | ⟨_, r, e'⟩ | ⟨l, Y, hl, e'⟩
    · intro f
      rcases ITerm.printL_head it ha.1.1 (guardsPrintL gs ++ rest) with ⟨c, r, e', _, hopen⟩ | ⟨l, Y, hl, e'⟩
      · rw [show ITerm.printL it ++ (guardsPrintL gs ++ rest) = '(' :: r1 from e] at e'; injection e' with ec er
        obtain ⟨l1, Z, hl1, _, rfl⟩ := hopen ec.symm
        rw [er, skip_of_startsSolid ((ITerm.printL_startsSolid l1 hl1).append _)]
        exact formulaL_iterm_text l1 hl1 (')' :: Z) (comparisonL_before_close l1 hl1 Z) f
      · exact absurd (e'.symm.trans e) (name_not_paren hl _ r1)
    · exact absurd (e'.symm.trans e) (fun h => by injection h with h _; exact absurd h (by decide))
    · exact absurd (e'.symm.trans e) (name_not_paren hl _ r1)

theorem fseq_prefix_type (F : Formula) (hpp : parenPrefix F = false) (hF : Formula.Safe F)
    (ihc : (core F).1 = true → FSeqOK (core F).2) : FSeqOK F := by
  intro rest toks' r' hr htail f hf
  obtain ⟨cs', h1, h2, h3⟩ := prefixes_printL F hpp hF rest hr.1.1.noId hr.2.2.2 true (Formula.printL F ++ rest)
    rfl (Nat.le_refl _)
  replace h1 := h1 _ (Nat.lt_succ_self _)
  obtain ⟨hflat, hG, hatom⟩ := spine F hpp hF
  rw [hflat]
  cases hc1 : (core F).1 with
  | true =>
    rw [hc1, parenLL_true] at h2
    -- the parenthesised core is a suffix of the text, so the fuel covers it
    have hlen : ('(' :: (Formula.printL (core F).2 ++ ')' :: rest)).length ≤ (Formula.printL F ++ rest).length :=
      Nat.le_trans (h2 ▸ skip_length_le cs') h3
    obtain ⟨f1, rfl, hf1⟩ := Asp.fuel_cons2 (Nat.lt_of_le_of_lt (Nat.mul_le_mul_left 2 hlen) hf)
    have hsG := skip_of_startsSolid ((Formula.printL_startsSolid _ hG).append (')' :: rest))
    have hin := formulaL_of_fseqOK (ihc hc1) (')' :: rest) (atomicFollow_close rest) (lexConn_close rest) f1 hf1
    have hop := foperand_paren (f1 + 1) _ (chain F) cs' _ _ rest (core F).2 h1 h2 (by rw [hsG]; exact hin)
      (skip_cons_solid rest ⟨by decide, by decide⟩)
    simp only [fseqT, hop, htail (f1 + 2) (fuel_tail (Asp.fuel_append_right hf1) 2), List.append_assoc]
  | false =>
    obtain ⟨a, ha⟩ := hatom hc1
    rw [hc1, ha] at h2
    rw [ha] at hG
    replace h2 : skip cs' = AtomicF.printL a ++ rest := h2
    obtain ⟨f0, rfl⟩ := Asp.fuel_succ hf
    have hat := atomicL_printL a (AtomicF.Safe.wf hG) rest hr
    have hop := foperand_atomicL f0 _ (chain F) cs' h1
      (fun r1 e1 => by rw [h2] at e1; exact atomic_paren_notclosed a hG rest r1 e1 f0)
    rw [h2, hat] at hop
    simp only [fseqT, hop, Option.map_some, htail (f0 + 1) (Asp.fuel_append_right hf), List.append_assoc, ha]

theorem atomicFollow_nameFollow {rest : List Char} (h : AtomicFollow rest) : NameFollow rest := ⟨h.1.1, h.1.2.1⟩

theorem fseq_bin (c : Conn) (l r : Formula) (hl : Formula.Safe l) (hr : Formula.Safe r)
    (ihl : FSeqOK l) (ihr : FSeqOK r) : FSeqOK (.bin c l r) := by
  intro rest toks' r' hrest htail f hf
  simp only [Formula.printL, List.append_assoc] at hf ⊢
  have hYsolid : StartsSolid (parenLL (parenRight c l r) (Formula.printL r) ++ rest) :=
    (parenLL_startsSolid _ (Formula.printL_startsSolid r hr)).append rest
  have hT : ∀ f, 2 * (Conn.printL c ++ (parenLL (parenRight c l r) (Formula.printL r) ++ rest)).length < f →
      ftailT f (Conn.printL c ++ (parenLL (parenRight c l r) (Formula.printL r) ++ rest)) =
        (.op c :: (fflatArg (parenRight c l r) r ++ toks'), r') := by
    intro f hf'
    obtain ⟨f0, rfl⟩ := Asp.fuel_succ hf'
    obtain ⟨rr, h1, h2⟩ := conn_lex c _ hYsolid
    rw [ftailT_succ, h1]
    simp only [h2, fseq_arg ihr hr _ rest toks' r' hrest htail f0 (fuel_conn c hf')]
  have hfol : AtomicFollow (Conn.printL c ++ (parenLL (parenRight c l r) (Formula.printL r) ++ rest)) :=
    atomicFollow_conn c _ (fun hc => by subst hc; exact rimpSafe_arg l r hr rest (atomicFollow_nameFollow hrest))
  rw [fseq_arg ihl hl (parenLeft c l r) _ _ r' hfol hT f hf]
  simp only [fflat, fflatArg, List.append_assoc, List.cons_append, List.nil_append]

theorem core_ok {g : Formula} {b : Bool} (hg : FSeqOK g) (hc : b = false → (core g).1 = true → FSeqOK (core g).2) :
    (if b then (true, g) else core g).1 = true → FSeqOK (if b then (true, g) else core g).2 := by
  cases b with
  | true => exact fun _ => hg
  | false => exact hc rfl

/-- by induction on the formula; along a chain of prefixes the hypothesis about the parenthesised
    core is handed upwards -/
theorem fseqOK_core : ∀ (F : Formula), Formula.Safe F →
    FSeqOK F ∧ (parenPrefix F = false → (core F).1 = true → FSeqOK (core F).2) := by
  intro F
  induction F with
  | atomic a => intro hF; exact ⟨fseq_prefix_type _ rfl hF (fun h => nomatch h), fun _ h => nomatch h⟩
  | not g ih =>
    intro hF
    have hc := core_ok (ih hF).1 (ih hF).2
    exact ⟨fseq_prefix_type _ rfl hF hc, fun _ => hc⟩
  | quant q vs g ih =>
    intro hF
    have hc := core_ok (ih hF.2.2).1 fun hq => (ih hF.2.2).2 (parenPrefix_of_quantBody hq)
    exact ⟨fseq_prefix_type _ rfl hF hc, fun _ => hc⟩
  | bin c l r ihl ihr =>
    intro hF
    exact ⟨fseq_bin c l r hF.1 hF.2 (ihl hF.1).1 (ihr hF.2).1, fun h => absurd (parenPrefix_bin c l r) (by rw [h]; decide)⟩

theorem fseqOK (F : Formula) (hF : Formula.Safe F) : FSeqOK F := (fseqOK_core F hF).1

theorem formulaL_printL (F : Formula) (hF : Formula.Safe F) (rest : List Char) (hr : AtomicFollow rest)
    (hstop : lexConn (skip rest) = none) (f : Nat) (hf : 2 * (Formula.printL F ++ rest).length < f) :
    formulaL (f + 1) (Formula.printL F ++ rest) = some (F, rest) :=
  formulaL_of_fseqOK (fseqOK F hF) rest hr hstop f hf

end Anthem.Fol
