/-
  `rename_conflicting_symbols` does not matter for validity: an emitted problem (clashing
  propositional predicates renamed to free names) has a countermodel as soon as the problem before
  the renaming has one. Hence "no emitted problem has a countermodel" can be used without any side
  condition on names.
-/
import AnthemModel.Proofs.PropRename
import AnthemModel.Proofs.RenameFresh
namespace Anthem
open Asp

theorem mem_problem_preds {p : Problem} {q : Pred} : q ∈ p.preds ↔ ∃ a ∈ p.formulas, q ∈ a.formula.preds := by
  unfold Problem.preds
  rw [mem_foldl_ext (fun a : AnnF => a.formula.preds)]
  simp

theorem pred_symbol_occupied (p : Problem) (a : AnnF) (ha : a ∈ p.formulas) (q : Pred) (hq : q ∈ a.formula.preds) :
    q.symbol ∈ p.occupiedNames := by
  unfold Problem.occupiedNames
  refine List.mem_append.mpr (Or.inl (List.mem_append.mpr (Or.inr ?_)))
  exact List.mem_map.mpr ⟨q, mem_problem_preds.mpr ⟨a, ha, hq⟩, rfl⟩

/-- the new names are free, so they can be given the extents of the predicates they stand for -/
theorem reading_surjective (p : Problem) (J0 : Interp) :
    ∃ J1 : Interp, J1.fc = J0.fc ∧ ∀ (q : String) (a : List Dom), q ∈ p.occupiedNames →
      (propReading p.propRenaming J1.pred q a ↔ J0.pred q a) := by
  obtain ⟨hfresh, hdist⟩ := propRenaming_fresh p
  let T1 : PredI := fun q a =>
    if a.isEmpty then
      match p.propRenaming.find? (fun e => e.2 = q) with
      | some e => J0.pred e.1 []
      | none => J0.pred q a
    else J0.pred q a
  refine ⟨⟨T1, J0.fc⟩, rfl, ?_⟩
  intro q a hq
  unfold propReading
  cases a with
  | cons d ds => exact Iff.rfl
  | nil =>
    simp only [List.isEmpty_nil, if_true]
    cases hf : p.propRenaming.find? (fun e => e.1 = q) with
    | some e =>
      -- `q` is renamed to `e.2`; the new name is read back as `q`
      have he1 : e.1 = q := by simpa using List.find?_some hf
      have hg := find?_of_pairwise_ne (fun x : String × String => x.2) hdist (List.mem_of_find?_eq_some hf) rfl
      simp only [T1, List.isEmpty_nil, if_true, hg, he1]
    | none =>
      -- `q` is not renamed, and it is no new name either (it occurs in `p`)
      simp only [T1, List.isEmpty_nil, if_true]
      cases hg : p.propRenaming.find? (fun e' => e'.2 = q) with
      | none => exact Iff.rfl
      | some e' =>
        have he'2 : e'.2 = q := by simpa using List.find?_some hg
        exact absurd (he'2 ▸ hq) (hfresh e' (List.mem_of_find?_eq_some hg))

theorem mkProblem0_formulas_of_part (name : String) : ∀ (parts : List (List AnnF)) (p : Problem),
    ∀ a ∈ (parts.foldl (fun (p : Problem) fs => p.addAnnotated fs) p).formulas,
      a ∈ p.formulas ∨ ∃ part ∈ parts, ∃ a0 ∈ part, a.formula = a0.formula := by
  intro parts
  induction parts with
  | nil => intro p a ha; exact Or.inl ha
  | cons part parts ih =>
    intro p a ha
    simp only [List.foldl_cons] at ha
    rcases ih _ a ha with h | ⟨pt, hpt, a0, ha0, he⟩
    · unfold Problem.addAnnotated at h
      simp only [List.mem_append, List.mem_map] at h
      rcases h with h | ⟨a0, ha0, rfl⟩
      · exact Or.inl h
      · exact Or.inr ⟨part, List.mem_cons_self, a0, ha0, rfl⟩
    · exact Or.inr ⟨pt, List.mem_cons_of_mem _ hpt, a0, ha0, he⟩

theorem mkProblem_role_forall (J : Interp) (ρ : Asg) (name : String) (parts : List (List AnnF)) (role : PRole) :
    (∀ a ∈ (mkProblem name parts).formulas, a.role = role → sat J a.formula ρ) ↔
      ∀ part ∈ parts, ∀ a ∈ part, a.role = role →
        sat ⟨propReading (mkProblem0 name parts).propRenaming J.pred, J.fc⟩ a.formula ρ := by
  rw [mkProblem_eq, uniqueNames_role_forall _ role (fun F => sat J F ρ),
    renameConflicting_role_forall _ role (fun F => sat J F ρ)]
  have h0 := mkProblem0_role_forall role
    (fun F => sat J (F.renameProps (mkProblem0 name parts).propRenaming) ρ) parts ⟨name, []⟩
  unfold mkProblem0 at h0 ⊢
  rw [h0]
  simp only [List.not_mem_nil, false_imp_iff, implies_true, true_and]
  exact forall_congr' fun part => imp_congr_right fun _ => forall_congr' fun a => imp_congr_right fun _ =>
    imp_congr_right fun _ => sat_renameProps _ J.pred J.fc a.formula ρ

theorem mk_refutes_single_reading (J : Interp) (ρ : Asg) (name : String) (parts : List (List AnnF)) :
    Refutes J ρ (mkProblem name parts) ↔
      SemRef ⟨propReading (mkProblem0 name parts).propRenaming J.pred, J.fc⟩ ρ parts := by
  rw [refutes_iff, mkProblem_role_forall, mkProblem_role_forall]
  rfl

theorem mk_refutes_reading (J : Interp) (ρ : Asg) (name : String) (parts : List (List AnnF)) (d : Decomposition) :
    (∃ P ∈ (mkProblem name parts).decompose d, Refutes J ρ P) ↔
      SemRef ⟨propReading (mkProblem0 name parts).propRenaming J.pred, J.fc⟩ ρ parts :=
  (decompose_refutes J ρ _ d).trans (mk_refutes_single_reading J ρ name parts)

theorem part_preds_occupied (name : String) (parts : List (List AnnF)) :
    ∀ part ∈ parts, ∀ a ∈ part, ∀ q ∈ a.formula.preds, q.symbol ∈ (mkProblem0 name parts).occupiedNames := by
  intro part hpart a ha q hq
  -- `a` (with a possibly adjusted name) is a formula of the assembled problem
  have hex : ∃ a' ∈ (mkProblem0 name parts).formulas, a'.formula = a.formula := by
    have h0 := (mkProblem0_role_forall a.role (fun F => F ≠ a.formula) parts ⟨name, []⟩)
    refine Classical.byContradiction fun hne => ?_
    have hall : ∀ a' ∈ (mkProblem0 name parts).formulas, a'.role = a.role → a'.formula ≠ a.formula :=
      fun a' ha' _ he => hne ⟨a', ha', he⟩
    unfold mkProblem0 at hall
    exact (h0.mp hall).2 part hpart a ha rfl rfl
  obtain ⟨a', ha', he⟩ := hex
  exact pred_symbol_occupied _ a' ha' q (he ▸ hq)

theorem semRef_reading (name : String) (parts : List (List AnnF)) (J0 : Interp) (ρ : Asg) (hsem : SemRef J0 ρ parts) :
    ∃ J1 : Interp, SemRef ⟨propReading (mkProblem0 name parts).propRenaming J1.pred, J1.fc⟩ ρ parts := by
  obtain ⟨J1, hfc, hread⟩ := reading_surjective (mkProblem0 name parts) J0
  have hsat : ∀ part ∈ parts, ∀ a ∈ part,
      (sat ⟨propReading (mkProblem0 name parts).propRenaming J1.pred, J1.fc⟩ a.formula ρ ↔ sat J0 a.formula ρ) := by
    intro part hpart a ha
    rw [hfc]
    refine sat_congr_preds J0.fc _ J0.pred a.formula ρ fun q hq ds _ => ?_
    exact hread q.symbol ds (part_preds_occupied name parts part hpart a ha q hq)
  exact ⟨J1, fun part hp a ha hr => (hsat part hp a ha).mpr (hsem.1 part hp a ha hr),
    fun hall => hsem.2 fun part hp a ha hr => (hsat part hp a ha).mp (hall part hp a ha hr)⟩

theorem valid_family (name : String) (parts : List (List AnnF)) (d : Decomposition)
    (hvalid : ∀ P ∈ (mkProblem name parts).decompose d, ∀ J ρ, ¬ Refutes J ρ P) :
    ∀ (J : Interp) (ρ : Asg), ¬ SemRef J ρ parts := by
  intro J0 ρ hsem
  obtain ⟨J1, hsem1⟩ := semRef_reading name parts J0 ρ hsem
  obtain ⟨P, hP, href⟩ := (mk_refutes_reading J1 ρ name parts d).mpr hsem1
  exact hvalid P hP J1 ρ href

theorem valid_single (name : String) (parts : List (List AnnF))
    (hvalid : ∀ J ρ, ¬ Refutes J ρ (mkProblem name parts)) :
    ∀ (J : Interp) (ρ : Asg), ¬ SemRef J ρ parts := by
  intro J0 ρ hsem
  obtain ⟨J1, hsem1⟩ := semRef_reading name parts J0 ρ hsem
  exact hvalid J1 ρ ((mk_refutes_single_reading J1 ρ name parts).mpr hsem1)

end Anthem
