/-
  C04, reference level: for a tight program the stable models (with input predicates) are exactly
  the supported classical models. "Supported" is the reference-semantics form of the completed
  definitions: every true atom of a non-input predicate is produced by a rule whose body is true.
-/
import AnthemModel.Proofs.Graph
import AnthemModel.Proofs.TauStarRules
namespace Anthem
open Asp C11

def Supported (P : Program) (ins : List Pred) (T : PredI) (fc : FcI) : Prop :=
  ∀ (q : String) (ds : List Dom), T q ds → (⟨q, ds.length⟩ : Pred) ∉ ins →
    ∃ r ∈ P, ∃ a : Asp.Atom, (r.head = .basic a ∨ r.head = .choice a) ∧ a.pred = q ∧
      ∃ σ : Subst, valsList σ a.args ds ∧ bodySat ⟨T, T, fc⟩ .there σ r.body

/-- Two interpretations with the same `there` part can tell a body atom apart only through a
    positive literal. -/
theorem bodyAtomSat_of_pos {H H' T : PredI} {fc fc' : FcI} {w w' : World} {σ : Subst} {f : BodyAtom}
    (h : bodyAtomSat ⟨H, T, fc⟩ w σ f)
    (hpos : ∀ a ds, f = .lit ⟨.pos, a⟩ → valsList σ a.args ds →
      HTI.at ⟨H, T, fc⟩ w a.pred ds → HTI.at ⟨H', T, fc'⟩ w' a.pred ds) :
    bodyAtomSat ⟨H', T, fc'⟩ w' σ f := by
  cases f with
  | cmp rel l r => exact h
  | lit l =>
    obtain ⟨s, a⟩ := l
    cases s with
    | pos => obtain ⟨ds, hv, hs⟩ := h; exact ⟨ds, hv, hpos a ds rfl hv hs⟩
    | neg => exact h
    | negneg => exact h

theorem bodySat_mono (H T : PredI) (fc : FcI) (hsub : ∀ q a, H q a → T q a) (σ : Subst) (b : List BodyAtom)
    (h : bodySat ⟨H, T, fc⟩ .here σ b) : bodySat ⟨T, T, fc⟩ .there σ b :=
  fun f hf => bodyAtomSat_of_pos (h f hf) fun a ds _ _ hs => hsub a.pred ds hs

theorem stable_supported (P : Program) (ins : List Pred) (T : PredI) (fc : FcI) (h : Stable P ins T fc) :
    progSat ⟨T, T, fc⟩ .there P ∧ Supported P ins T fc := by
  refine ⟨h.1, ?_⟩
  intro q ds hT hni
  refine Classical.byContradiction fun hno => ?_
  -- remove the unsupported atom
  let H : PredI := fun q' ds' => T q' ds' ∧ ¬ (q' = q ∧ ds' = ds)
  have hsub : ∀ q' a, H q' a → T q' a := fun _ _ h => h.1
  have hins : ∀ q' a, (⟨q', a.length⟩ : Pred) ∈ ins → (H q' a ↔ T q' a) := by
    intro q' a hin
    refine ⟨fun h => h.1, fun h => ⟨h, ?_⟩⟩
    rintro ⟨rfl, rfl⟩
    exact hni hin
  have hmodel : progSat ⟨H, T, fc⟩ .here P := by
    intro r hr σ
    have hthere := (h.1 r hr σ).2
    refine ⟨fun hb => ?_, hthere⟩
    have hbT := bodySat_mono H T fc hsub σ r.body hb
    have hhT := hthere hbT
    cases hh : r.head with
    | falsity => rw [hh] at hhT; exact hhT
    | basic a =>
      rw [hh] at hhT
      intro ds' hv
      refine ⟨hhT ds' hv, ?_⟩
      rintro ⟨hq, rfl⟩
      exact hno ⟨r, hr, a, Or.inl hh, hq, σ, hv, hbT⟩
    | choice a =>
      rw [hh] at hhT
      intro ds' hv
      by_cases hT' : T a.pred ds'
      · left
        refine ⟨hT', ?_⟩
        rintro ⟨hq, rfl⟩
        exact hno ⟨r, hr, a, Or.inr hh, hq, σ, hv, hbT⟩
      · exact Or.inr hT'
  have := h.2 H hsub hins hmodel q ds hT
  exact this.2 ⟨rfl, rfl⟩

theorem edge_of_pos_literal (P : Program) (r : Rule) (hr : r ∈ P) (a b : Asp.Atom)
    (hh : r.head = .basic a ∨ r.head = .choice a) (hb : BodyAtom.lit ⟨.pos, b⟩ ∈ r.body) :
    (a.predicate, b.predicate) ∈ positiveEdges P :=
  mem_positiveEdges.mpr ⟨r, hr, by rcases hh with h | h <;> rw [h] <;> rfl,
    mem_bodyPosPreds.mpr ⟨_, hb, List.mem_singleton.mpr rfl⟩⟩

/-- Fages' theorem for mini-gringo programs with inputs -/
theorem supported_stable (P : Program) (htight : isTight P = true) (ins : List Pred) (T : PredI) (fc : FcI)
    (hmodel : progSat ⟨T, T, fc⟩ .there P) (hsupp : Supported P ins T fc) : Stable P ins T fc := by
  refine ⟨hmodel, ?_⟩
  intro H hsub hins hH
  have hac := (isTight_iff P).mp htight
  have htgt := positiveEdges_tgt P
  -- induction on the rank of the predicate
  suffices hs : ∀ (n : Nat) (q : String) (ds : List Dom),
      rank P.preds (positiveEdges P) ⟨q, ds.length⟩ = n → T q ds → H q ds from
    fun q ds hT => hs _ q ds rfl hT
  intro n
  induction n using Nat.strongRecOn with
  | _ n ih =>
    intro q ds hn hT
    by_cases hin : (⟨q, ds.length⟩ : Pred) ∈ ins
    · exact (hins q ds hin).mpr hT
    · obtain ⟨r, hr, a, hh, hq, σ, hv, hb⟩ := hsupp q ds hT hin
      have hpred : a.predicate = ⟨q, ds.length⟩ := by rw [valsList_length hv, ← hq]; rfl
      -- the body holds at `here` as well: positive literals by the induction hypothesis
      have hbH : bodySat ⟨H, T, fc⟩ .here σ r.body := by
        refine fun f hf => bodyAtomSat_of_pos (hb f hf) fun b ds' hfb hv' hs' => ?_
        have hlt := rank_lt P.preds (positiveEdges P) htgt hac
          (Path.step (edge_of_pos_literal P r hr a b hh (hfb ▸ hf)))
        have hbp : b.predicate = ⟨b.pred, ds'.length⟩ := by rw [valsList_length hv']; rfl
        rw [hpred, hbp] at hlt
        exact ih _ (hn ▸ hlt) b.pred ds' rfl hs'
      have hrule := (hH r hr σ).1 hbH
      rcases hh with hh | hh
      · rw [hh] at hrule
        have := hrule ds hv
        rw [hq] at this; exact this
      · rw [hh] at hrule
        rcases hrule ds hv with h1 | h1
        · rw [hq] at h1; exact h1
        · rw [hq] at h1; exact absurd hT h1

theorem tight_stable_iff_supported (P : Program) (htight : isTight P = true) (ins : List Pred)
    (T : PredI) (fc : FcI) :
    Stable P ins T fc ↔ progSat ⟨T, T, fc⟩ .there P ∧ Supported P ins T fc :=
  ⟨stable_supported P ins T fc, fun h => supported_stable P htight ins T fc h.1 h.2⟩

end Anthem
