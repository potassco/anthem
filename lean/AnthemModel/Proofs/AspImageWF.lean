/-
  The image of the mini-gringo parser is well-formed: every tree the parser builds has names of the
  grammar's lexical shape *other than `not`* (the lexer refuses `not` as a name, anthem's fix a1dc9d0),
  so the round trip of an accepted text needs no hypothesis at all.
-/
import AnthemModel.Proofs.AspProgramRT
namespace Anthem.Asp

theorem takeWhile_all (p : Char → Bool) (l : List Char) : ∀ x ∈ l.takeWhile p, p x = true :=
  List.all_eq_true.mp List.all_takeWhile

theorem lexSymbol_some {cs l r : List Char} (h : lexSymbol cs = some (l, r)) :
    startsNotWord cs = false ∧
      ((∃ c r', cs = c :: r' ∧ c.isLower = true ∧ l = c :: r'.takeWhile isIdChar) ∨
       (∃ c r', cs = '_' :: c :: r' ∧ c.isLower = true ∧ l = '_' :: c :: r'.takeWhile isIdChar)) := by
  unfold lexSymbol at h
  split at h
  · cases h
  · rename_i hnw
    refine ⟨(Bool.not_eq_true _).mp hnw, ?_⟩
    split at h
    · split at h
      · rename_i c r' hc; cases h; exact Or.inr ⟨c, r', rfl, hc, rfl⟩
      · cases h
    · split at h
      · rename_i c r' _ hc; cases h; exact Or.inl ⟨c, r', rfl, hc, rfl⟩
      · cases h
    · cases h

theorem lexSymbol_shape {cs l r : List Char} (h : lexSymbol cs = some (l, r)) : SymName l := by
  obtain ⟨-, ⟨c, r', -, hc, rfl⟩ | ⟨c, r', -, hc, rfl⟩⟩ := lexSymbol_some h
  · exact Or.inl ⟨c, _, rfl, hc, takeWhile_all _ _⟩
  · exact Or.inr ⟨c, _, rfl, hc, takeWhile_all _ _⟩

/-- anthem's fix a1dc9d0 -/
theorem lexSymbol_not_not {cs l r : List Char} (h : lexSymbol cs = some (l, r)) : l ≠ ['n', 'o', 't'] := by
  intro e
  obtain ⟨hnw, ⟨c, r', rfl, -, hl⟩ | ⟨c, r', -, -, hl⟩⟩ := lexSymbol_some h
  · -- `cs = n :: r'` and the identifier characters in front of `r'` are `ot`: `cs` begins with the word `not`
    obtain ⟨rfl, h2⟩ := List.cons.inj (e.symm.trans hl)
    have hsplit := List.takeWhile_append_dropWhile (p := isIdChar) (l := r')
    rw [← h2] at hsplit
    rw [← hsplit] at hnw
    cases hd : r'.dropWhile isIdChar with
    | nil => rw [hd] at hnw; exact absurd hnw (by decide)
    | cons d ds =>
      have hdid : isIdChar d = false := by
        have := List.head_dropWhile_not isIdChar (l := r') (by rw [hd]; exact List.cons_ne_nil _ _)
        simpa only [hd, List.head_cons] using this
      rw [hd] at hnw
      simp only [List.cons_append, List.nil_append, startsNotWord, hdid] at hnw
      exact absurd hnw (by decide)
  · exact absurd (List.cons.inj (e.symm.trans hl)).1 (by decide)

theorem lexVariable_shape {cs l r : List Char} (h : lexVariable cs = some (l, r)) : VarName l := by
  unfold lexVariable at h
  split at h
  · split at h
    · rename_i c r' hc; cases h; exact ⟨c, _, rfl, hc, takeWhile_all _ _⟩
    · cases h
  · cases h

theorem lexPre_wf {cs : List Char} {p : Pre} {r : List Char} (h : lexPre cs = some (p, r)) :
    (Term.pre p).WF := by
  unfold lexPre at h
  split at h
  · cases h; trivial
  split at h
  · cases h; trivial
  split at h
  · cases h; trivial
  split at h
  · rename_i hs
    cases h
    simp only [Term.WF, String.toList_ofList]
    exact ⟨lexSymbol_shape hs, lexSymbol_not_not hs⟩
  split at h
  · cases h; trivial
  split at h
  · cases h; trivial
  · cases h

/-! The Pratt parser builds its result from the primaries of the pair sequence. -/

def TokWF (ts : List Tok) : Prop := ∀ t, Tok.prim t ∈ ts → t.WF

theorem TokWF.tail {a : Tok} {ts : List Tok} (h : TokWF (a :: ts)) : TokWF ts :=
  fun t ht => h t (List.mem_cons_of_mem _ ht)

theorem TokWF.append {a b : List Tok} (ha : TokWF a) (hb : TokWF b) : TokWF (a ++ b) :=
  fun t ht => (List.mem_append.mp ht).elim (ha t) (hb t)

theorem pratt_wf : ∀ (f : Nat),
    (∀ rbp toks t r, TokWF toks → prattExpr f rbp toks = some (t, r) → t.WF ∧ TokWF r) ∧
    (∀ rbp lhs toks t r, lhs.WF → TokWF toks → prattLoop f rbp lhs toks = some (t, r) →
      t.WF ∧ TokWF r) := by
  intro f
  induction f with
  | zero => exact ⟨fun _ _ _ _ _ h => (by cases h), fun _ _ _ _ _ _ _ h => (by cases h)⟩
  | succ f ih =>
    obtain ⟨ihE, ihL⟩ := ih
    refine ⟨?_, ?_⟩
    · intro rbp toks t r hts h
      simp only [prattExpr] at h
      split at h
      · rename_i r0
        split at h
        · rename_i a r' ha
          obtain ⟨sa, sr⟩ := ihE 49 r0 a r' hts.tail ha
          exact ihL rbp (.neg a) r' t r sa sr h
        · cases h
      · rename_i t0 r0
        exact ihL rbp t0 r0 t r (hts t0 List.mem_cons_self) hts.tail h
      · cases h
    · intro rbp lhs toks t r hl hts h
      simp only [prattLoop] at h
      split at h
      · cases h; exact ⟨hl, fun _ hx => by cases hx⟩
      · rename_i o r0
        split at h
        · split at h
          · rename_i rhs r' hr
            obtain ⟨sr, st⟩ := ihE o.bp r0 rhs r' hts.tail hr
            exact ihL rbp (.bin o lhs rhs) r' t r ⟨hl, sr⟩ st h
          · cases h
        · cases h; exact ⟨hl, hts⟩
      · split at h
        · cases h
        · cases h; exact ⟨hl, hts⟩
      · cases h

theorem pratt_some_wf {toks : List Tok} {t : Term} (hts : TokWF toks) (h : pratt toks = some t) : t.WF := by
  unfold pratt at h
  split at h
  · rename_i t' heq
    cases h
    exact ((pratt_wf _).1 0 toks _ [] hts heq).1
  · cases h

theorem lexNegs_wf : ∀ (n : Nat) (first : Bool) (cs : List Char), TokWF (lexNegs n first cs).1 := by
  intro n
  induction n with
  | zero => intro _ _ t ht; cases ht
  | succ n ih =>
    intro first cs t ht
    simp only [lexNegs] at ht
    split at ht
    · rename_i r _
      exact ih false r t ((List.mem_cons.mp ht).resolve_left Tok.noConfusion)
    · cases ht

theorem term_wf : ∀ (f : Nat),
    (∀ cs ts r, operand f cs = some (ts, r) → TokWF ts) ∧
    (∀ cs, TokWF (tailT f cs).1) ∧
    (∀ cs t r, termL f cs = some (t, r) → t.WF) := by
  intro f
  induction f with
  | zero => exact ⟨fun _ _ _ h => (by cases h), fun _ t ht => (by cases ht), fun _ _ _ h => (by cases h)⟩
  | succ f ih =>
    obtain ⟨ihO, ihT, ihL⟩ := ih
    have single : ∀ (negs : List Tok) (t : Term), TokWF negs → t.WF → TokWF (negs ++ [Tok.prim t]) :=
      fun negs t hn ht => hn.append (fun u hu => by cases List.mem_singleton.mp hu; exact ht)
    refine ⟨?_, ?_, ?_⟩
    · intro cs ts r h
      simp only [operand] at h
      have hn := lexNegs_wf (cs.length + 1) true cs
      split at h
      · rename_i p r' hp
        cases h; exact single _ _ hn (lexPre_wf hp)
      · split at h
        · rename_i x r' hx
          cases h
          refine single _ _ hn ?_
          simp only [Term.WF, String.toList_ofList]
          exact lexVariable_shape hx
        · split at h
          · split at h
            · rename_i ht
              split at h
              · cases h; exact single _ _ hn (ihL _ _ _ ht)
              · cases h
            · cases h
          · cases h
    · intro cs
      simp only [tailT]
      split
      · split
        · rename_i hop
          intro t ht
          exact ((ihO _ _ _ hop).append (ihT _)) t ((List.mem_cons.mp ht).resolve_left Tok.noConfusion)
        · intro t ht; cases ht
      · intro t ht; cases ht
    · intro cs t r h
      simp only [termL] at h
      split at h
      · rename_i hop
        split at h
        · rename_i hp
          cases h
          exact pratt_some_wf ((ihO _ _ _ hop).append (ihT _)) hp
        · cases h
      · cases h

theorem termL_wf {f : Nat} {cs : List Char} {t : Term} {r : List Char} (h : termL f cs = some (t, r)) :
    t.WF := (term_wf f).2.2 cs t r h

theorem termArgs_wf : ∀ (f : Nat) (cs : List Char), ∀ t ∈ (termArgs f cs).1, t.WF := by
  intro f
  induction f with
  | zero => intro cs t ht; cases ht
  | succ f ih =>
    intro cs t ht
    simp only [termArgs] at ht
    split at ht
    · split at ht
      · rename_i hterm
        rcases List.mem_cons.mp ht with rfl | ht
        · exact termL_wf hterm
        · exact ih _ t ht
      · cases ht
    · cases ht

theorem atomL_wf {cs : List Char} {a : Atom} {r : List Char} (h : atomL cs = some (a, r)) : a.WF := by
  unfold atomL at h
  split at h
  · cases h
  · rename_i s r0 hs
    have hsym : SymName (String.ofList s).toList := by
      rw [String.toList_ofList]; exact lexSymbol_shape hs
    have hnn : (String.ofList s).toList ≠ ['n', 'o', 't'] := by
      rw [String.toList_ofList]; exact lexSymbol_not_not hs
    have hno : (⟨String.ofList s, []⟩ : Atom).WF := ⟨hsym, hnn, fun t ht => by cases ht⟩
    dsimp only at h
    split at h
    · split at h
      · rename_i hterm
        split at h
        · cases h
          refine ⟨hsym, hnn, fun u hu => ?_⟩
          rcases List.mem_cons.mp hu with rfl | hu
          · exact termL_wf hterm
          · exact termArgs_wf _ _ u hu
        · cases h; exact hno
      · split at h <;> (cases h; exact hno)
    · cases h; exact hno

theorem atomicFormulaL_wf {cs : List Char} {b : BodyAtom} {r : List Char}
    (h : atomicFormulaL cs = some (b, r)) : b.WF := by
  unfold atomicFormulaL at h
  split at h
  · rename_i hc
    cases h
    unfold comparisonL at hc
    split at hc
    · rename_i hl
      split at hc
      · split at hc
        · rename_i hr
          cases hc
          exact ⟨termL_wf hl, termL_wf hr⟩
        · cases hc
      · cases hc
    · cases hc
  · split at h
    · rename_i hl
      cases h
      unfold literalL at hl
      dsimp only at hl
      split at hl
      · rename_i ha
        cases hl
        exact atomL_wf ha
      · cases hl
    · cases h

theorem bodyRest_wf : ∀ (f : Nat) (cs : List Char), ∀ b ∈ (bodyRest f cs).1, b.WF := by
  intro f
  induction f with
  | zero => intro cs b hb; cases hb
  | succ f ih =>
    intro cs b hb
    simp only [bodyRest] at hb
    split at hb
    · split at hb
      · split at hb
        · rename_i ha
          rcases List.mem_cons.mp hb with rfl | hb
          · exact atomicFormulaL_wf ha
          · exact ih _ b hb
        · cases hb
      · cases hb
    · cases hb

theorem bodyL_wf (cs : List Char) : ∀ b ∈ (bodyL cs).1, b.WF := by
  intro b hb
  unfold bodyL at hb
  split at hb
  · rename_i ha
    rcases List.mem_cons.mp hb with rfl | hb
    · exact atomicFormulaL_wf ha
    · exact bodyRest_wf _ _ b hb
  · cases hb

theorem headL_wf (cs : List Char) : (headL cs).1.WF := by
  unfold headL
  split
  · rename_i ha; exact atomL_wf ha
  · dsimp only
    split
    · rename_i hx
      split at hx
      · split at hx
        · rename_i ha
          split at hx
          · cases hx; exact atomL_wf ha
          · cases hx
        · cases hx
      · cases hx
    · split <;> trivial

theorem neckBodyL_wf (r : List Char) : ∀ b ∈ (neckBodyL r).1, b.WF := by
  unfold neckBodyL
  split
  · exact bodyL_wf _
  · intro b hb; cases hb

theorem ruleL_wf {cs : List Char} {r : Rule} {rest : List Char} (h : ruleL cs = some (r, rest)) : r.WF := by
  unfold ruleL at h
  split at h
  · cases h
  · unfold ruleBodyL at h
    split at h
    · cases h; exact ⟨headL_wf _, neckBodyL_wf _⟩
    · cases h

theorem rulesL_wf : ∀ (f : Nat) (cs : List Char), ∀ r ∈ (rulesL f cs).1, r.WF := by
  intro f
  induction f with
  | zero => intro cs r hr; cases hr
  | succ f ih =>
    intro cs r hr
    simp only [rulesL] at hr
    split at hr
    · rename_i h0
      rcases List.mem_cons.mp hr with rfl | hr
      · exact ruleL_wf h0
      · exact ih _ r hr
    · cases hr

theorem parseProgram_wf {text : String} {p : Program} (h : parseProgram text = some p) : p.WF := by
  unfold parseProgram parseProgramL at h
  dsimp only at h
  split at h
  · cases h; exact rulesL_wf _ _
  · cases h

end Anthem.Asp
