/-
  The intuitionistic rewrites that change binder lists: remove_orphaned_variables and
  join_nested_quantifiers keep the HT meaning and add no free variable.
-/
import AnthemModel.Proofs.RewritesFV
namespace Anthem

theorem quantify_htEquiv (f : Formula) (q : Quant) (vs : List Var) :
    HTEquiv (f.quantify q vs) (.quant q vs f) := fun M _ w ρ => ht_quantify M f q vs w ρ

theorem removeOrphanedVariables_keeps (F : Formula) : HTKeeps (removeOrphanedVariables F) F := by
  unfold removeOrphanedVariables
  split
  · next q vs f =>
    refine ⟨fun M _ w ρ => ?_, fun v hv => ⟨hv.1, fun hm => hv.2 ?_⟩⟩
    · exact (ht_quant ..).trans ((bindQ_filter (S := (· ∈ f.fv))
        (fun ρ ρ' h => ht_agree M f w ρ ρ' fun v hv => h v (Formula.mem_fv.mpr hv)) vs ρ).trans (ht_quant ..).symm)
    · exact List.mem_filter.mpr ⟨hm, decide_eq_true (Formula.mem_fv.mpr hv.1)⟩
  · exact HTKeeps.congr.refl F

theorem mem_insertVar {v x : Var} {l : List Var} : x ∈ insertVar v l ↔ x = v ∨ x ∈ l := by
  induction l with
  | nil => simp [insertVar]
  | cons w ws ih =>
    simp only [insertVar]
    split
    · simp only [List.mem_cons, ih]
      exact or_left_comm
    · simp

theorem mem_sortVars {x : Var} {l : List Var} : x ∈ sortVars l ↔ x ∈ l := by
  unfold sortVars
  induction l with
  | nil => simp
  | cons w ws ih => simp only [List.foldr_cons, mem_insertVar, ih, List.mem_cons]

theorem mem_dedupAdj {x : Var} : ∀ {l : List Var}, x ∈ dedupAdj l ↔ x ∈ l
  | [] => by simp [dedupAdj]
  | [v] => by simp [dedupAdj]
  | v :: w :: ws => by
    have ih := @mem_dedupAdj x (w :: ws)
    simp only [dedupAdj]
    split
    · rename_i h; subst h; simp only [ih, List.mem_cons]
      exact ⟨Or.inr, fun h => h.elim (fun a => Or.inl a) id⟩
    · simp only [List.mem_cons] at ih ⊢; rw [ih]

theorem joinNestedQuantifiers_keeps (F : Formula) : HTKeeps (joinNestedQuantifiers F) F := by
  unfold joinNestedQuantifiers
  split
  · next q vs q' vs' f =>
    split
    · next h =>
      subst h
      have hm : ∀ v, v ∈ dedupAdj (sortVars (vs ++ vs')) ↔ v ∈ vs ++ vs' := fun v => by
        rw [mem_dedupAdj, mem_sortVars]
      refine ⟨fun M _ w ρ => (ht_quantify ..).trans ?_, fun v hv => ?_⟩
      · rw [ht_quant, ht_quant, bindQ_congr (fun τ => ht_quant M q vs' f w τ) ρ]
        exact (bindQ_perm hm _ ρ).trans (bindQ_append q vs vs' _ ρ)
      · obtain ⟨h1, h2⟩ := (quantify_FV ..).mp hv
        rw [hm, List.mem_append, not_or] at h2
        exact ⟨⟨h1, h2.2⟩, h2.1⟩
    · exact HTKeeps.congr.refl _
  · exact HTKeeps.congr.refl F

end Anthem
