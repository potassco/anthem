/-
  Termination of `apply_fixpoint`, by a measure of four components compared lexicographically:
    pw  a polynomial interpretation (products for `and`/`or`),
    ew  the equality links `l = r` with syntactically different sides (substituting a defined
        variable turns `X = t` into `t = t`),
    gw  the quantified general variables (restrict_quantifier_domain),
    bw  the quantified variables (remove_orphaned_variables).
  A rewrite returns its argument or decreases the measure, and then does so in every context, the
  measure being monotone; so every pass of `applyPost` that changes the formula decreases it.
  Also here: `renameLoop_sorts` and `substFuel_rel` (the induction over capture-avoiding
  substitution, for any relation between `F.subst v s` and `F`), which `SimplifyShape` and
  `TerminationClassic` use too.
-/
import AnthemModel.Proofs.Congruence
import AnthemModel.Proofs.ChooseFresh
namespace Anthem

theorem applyFixpointFuel_end (f : Formula → Formula) : ∀ (n : Nat) (F : Formula),
    (applyFixpointFuel f n F).2 = true →
      applyPost f (applyFixpointFuel f n F).1 = (applyFixpointFuel f n F).1 ∧
      ∀ k, n ≤ k → applyFixpointFuel f k F = applyFixpointFuel f n F := by
  intro n
  induction n with
  | zero =>
    intro F h
    have e : applyPost f F = F := of_decide_eq_true h
    refine ⟨congrArg _ e, fun k _ => ?_⟩
    cases k with
    | zero => rfl
    | succ k => exact (applyFixpointFuel_of_eq e.symm k).trans (Prod.ext rfl h.symm)
  | succ n ih =>
    intro F h
    by_cases e : F = applyPost f F
    · rw [applyFixpointFuel_of_eq e]
      refine ⟨congrArg _ e.symm, fun k hk => ?_⟩
      cases k with
      | zero => exact absurd hk (Nat.not_succ_le_zero n)
      | succ k => exact applyFixpointFuel_of_eq e k
    · rw [applyFixpointFuel_of_ne e] at h ⊢
      refine ⟨(ih _ h).1, fun k hk => ?_⟩
      cases k with
      | zero => exact absurd hk (Nat.not_succ_le_zero n)
      | succ k => exact (applyFixpointFuel_of_ne e k).trans ((ih _ h).2 k (Nat.le_of_succ_le_succ hk))

theorem renameLoop_sorts (sub : Formula → Var → GTerm → Formula) (tv : List Var) :
    ∀ (xs : List Var) (body : Formula) (taken : List Var),
      (renameLoop sub tv xs body taken).2.map (·.sort) = xs.map (·.sort) := by
  intro xs
  induction xs with
  | nil => exact fun _ _ => rfl
  | cons x xs ih =>
    intro body taken
    unfold renameLoop
    split
    · show (freshVar x taken).sort :: _ = x.sort :: _
      rw [freshVar_sort, ih]
    · exact congrArg (x.sort :: ·) (ih _ _)

/-- Induction over `substFuel`, done once. `quant` is in terms of `quantify` and equal sort lists because
    substitution renames bound variables within their sorts and drops a block left empty. -/
theorem substFuel_rel {R : Formula → Formula → Prop} (refl : ∀ a, R a a)
    (trans : ∀ {a b c}, R a b → R b c → R a c)
    (atomic : ∀ a v s, R (.atomic (AtomicF.subst a v s)) (.atomic a))
    (not : ∀ {a b}, R a b → R (.not a) (.not b))
    (bin : ∀ c {a b a' b'}, R a a' → R b b' → R (.bin c a b) (.bin c a' b'))
    (quant : ∀ q {vs' vs : List Var} {a b}, R a b → vs'.map (·.sort) = vs.map (·.sort) →
      R (a.quantify q vs') (.quant q vs b)) :
    ∀ (n : Nat) (f : Formula) (v : Var) (s : GTerm), R (f.substFuel n v s) f := by
  have loop : ∀ {sub : Formula → Var → GTerm → Formula}, (∀ f v s, R (sub f v s) f) →
      ∀ tv xs body taken, R (renameLoop sub tv xs body taken).1 body := by
    intro sub hs tv xs
    induction xs with
    | nil => exact fun _ _ => refl _
    | cons x xs ih =>
      intro body taken
      unfold renameLoop
      split
      · exact trans (ih _ _) (hs _ _ _)
      · exact ih _ _
  intro n
  induction n with
  | zero =>
    intro f v s
    cases f with
    | atomic a => exact atomic a v s
    | not _ | bin _ _ _ | quant _ _ _ => exact refl _
  | succ n ih =>
    intro f v s
    cases f with
    | atomic a => exact atomic a v s
    | not g => exact not (ih g v s)
    | bin c l r => exact bin c (ih l v s) (ih r v s)
    | quant q vs g =>
      unfold Formula.substFuel
      split
      · exact refl _
      · exact quant q (trans (ih _ v s) (loop ih _ _ _ _)) (renameLoop_sorts _ _ _ _ _)

/-- What a connective adds to the product of its operands in `pw`. `and`/`or` add nothing, so that a
    conjunction weighs the product of its conjuncts however `conjoin` nests them. `<-` is above
    `->` because apply_reverse_implication_definition turns `l <- r` into `r -> l`; `<->` is level
    with `->`: `(a -> b) and (b -> a)` weighs `n * n` with `n = a.pw * b.pw + 1 ≥ 2`, `a <-> b` only `n`. -/
def Conn.off : Conn → Nat
  | .and | .or => 0
  | .imp | .iff => 1
  | .rimp => 2

/-- Every weight is at least 2, so that a product exceeds both factors (remove_identities,
    remove_idempotences) and `#true`/`#false` are below every compound (remove_annihilations); an atom
    or single comparison is above `#true`/`#false`, to which evaluate_comparisons may reduce it; a
    chain of `n ≥ 2` guards is above `3 ^ n`, the most that the conjunction of its `n` links weighs. -/
def AtomicF.pw : AtomicF → Nat
  | .tru | .fls => 2
  | .atom _ => 3
  | .cmp _ gs => if gs.length ≤ 1 then 3 else 3 ^ gs.length + 1

/-- `not` adds 1 so that `not not F` is above `F` and `l -> #false` (`l.pw * 2 + 1`) above `not l`.
    A quantifier adds 1 so that dropping an empty block and joining two blocks lower the weight, and
    `(exists X F) and G`, `(F.pw + 1) * G.pw`, is above `exists X (F and G)`, `F.pw * G.pw + 1`. -/
def Formula.pw : Formula → Nat
  | .atomic a => a.pw
  | .not f => f.pw + 1
  | .bin c l r => l.pw * r.pw + c.off
  | .quant _ _ f => f.pw + 1

def eqLinks : GTerm → List Guard → Nat
  | _, [] => 0
  | l, g :: gs => (if g.rel = .eq ∧ l ≠ g.term then 1 else 0) + eqLinks g.term gs

def AtomicF.ew : AtomicF → Nat
  | .cmp t gs => eqLinks t gs
  | _ => 0

def Formula.ew : Formula → Nat
  | .atomic a => a.ew
  | .not f => f.ew
  | .bin _ l r => l.ew + r.ew
  | .quant _ _ f => f.ew

def countGeneral (vs : List Var) : Nat := (vs.filter (·.sort = .general)).length

def Formula.gw : Formula → Nat
  | .atomic _ => 0
  | .not f => f.gw
  | .bin _ l r => l.gw + r.gw
  | .quant _ vs f => countGeneral vs + f.gw

def Formula.bw : Formula → Nat
  | .atomic _ => 0
  | .not f => f.bw
  | .bin _ l r => l.bw + r.bw
  | .quant _ vs f => vs.length + f.bw

theorem AtomicF.pw_ge : ∀ a : AtomicF, 2 ≤ a.pw
  | .tru | .fls => Nat.le_refl 2
  | .atom _ => Nat.le_succ 2
  | .cmp _ gs => by
    simp only [AtomicF.pw]
    split
    · exact Nat.le_succ 2
    · exact Nat.succ_le_succ (Nat.pow_pos (Nat.succ_pos 2))

theorem Formula.pw_ge (f : Formula) : 2 ≤ f.pw := by
  induction f with
  | atomic a => exact a.pw_ge
  | not _ ih | quant _ _ _ ih => exact Nat.le_succ_of_le ih
  | bin _ _ _ ihl ihr => exact Nat.le_add_right_of_le (Nat.le_trans (Nat.le_add_left 2 2) (Nat.mul_le_mul ihl ihr))

theorem Formula.pw_pos (f : Formula) : 0 < f.pw := Nat.lt_of_lt_of_le (Nat.succ_pos 1) f.pw_ge

def Lt4 (a b : Formula) : Prop :=
  a.pw < b.pw ∨ (a.pw = b.pw ∧ (a.ew < b.ew ∨ (a.ew = b.ew ∧ (a.gw < b.gw ∨ (a.gw = b.gw ∧ a.bw < b.bw)))))

def Le4 (a b : Formula) : Prop := a = b ∨ Lt4 a b

/-! `Lt4` is three steps `x < y ∨ x = y ∧ P` of a lexicographic comparison, `P` comparing the rest. -/

theorem lexStep_trans {x y z : Nat} {P Q R : Prop} (h : P → Q → R) (h1 : x < y ∨ x = y ∧ P)
    (h2 : y < z ∨ y = z ∧ Q) : x < z ∨ x = z ∧ R := by
  rcases h1 with h1 | ⟨rfl, p⟩
  · exact .inl (h2.elim (Nat.lt_trans h1) fun e => e.1 ▸ h1)
  · exact h2.imp_right (And.imp_right (h p))

theorem lexStep_map {x y : Nat} {P Q : Prop} (f : Nat → Nat) (hf : ∀ {x y}, x < y → f x < f y) (h : P → Q) :
    x < y ∨ x = y ∧ P → f x < f y ∨ f x = f y ∧ Q :=
  Or.imp hf (And.imp (congrArg f) h)

theorem lexStep_of_le {x y : Nat} {P : Prop} (h : x ≤ y) (p : P) : x < y ∨ x = y ∧ P :=
  (Nat.lt_or_eq_of_le h).imp_right fun e => ⟨e, p⟩

theorem Lt4.trans {a b c : Formula} (h1 : Lt4 a b) (h2 : Lt4 b c) : Lt4 a c :=
  lexStep_trans (lexStep_trans (lexStep_trans Nat.lt_trans)) h1 h2

theorem Le4.refl (a : Formula) : Le4 a a := Or.inl rfl

theorem Le4.trans {a b c : Formula} (h1 : Le4 a b) (h2 : Le4 b c) : Le4 a c := by
  rcases h1 with rfl | h1
  · exact h2
  · exact h2.elim (fun e => e ▸ .inr h1) fun h2 => .inr (h1.trans h2)

theorem Le4.of_pw {a b : Formula} (h : a.pw < b.pw) : Le4 a b := Or.inr (Or.inl h)

theorem lt4_wf : WellFounded Lt4 :=
  Subrelation.wf
    (r := InvImage (Prod.Lex Nat.lt (Prod.Lex Nat.lt (Prod.Lex Nat.lt Nat.lt))) fun f => (f.pw, f.ew, f.gw, f.bw))
    (fun h => by simp only [InvImage, Prod.lex_def]; exact h)
    (InvImage.wf _ (Prod.lex Nat.lt_wfRel (Prod.lex Nat.lt_wfRel (Prod.lex Nat.lt_wfRel Nat.lt_wfRel))).wf)

/-- Each context `C` below acts on the components by strictly monotone functions, and the conclusion
    here is then `Lt4 (C a) (C b)` by definition, which is why `Lt4.not` etc. can give it as their proof. -/
theorem Lt4.map {p e g w : Nat → Nat} (hp : ∀ {x y}, x < y → p x < p y) (he : ∀ {x y}, x < y → e x < e y)
    (hg : ∀ {x y}, x < y → g x < g y) (hw : ∀ {x y}, x < y → w x < w y) {a b : Formula} (h : Lt4 a b) :
    p a.pw < p b.pw ∨ p a.pw = p b.pw ∧ (e a.ew < e b.ew ∨ e a.ew = e b.ew ∧
      (g a.gw < g b.gw ∨ g a.gw = g b.gw ∧ w a.bw < w b.bw)) :=
  lexStep_map p hp (lexStep_map e he (lexStep_map g hg hw)) h

theorem Lt4.not {a b : Formula} (h : Lt4 a b) : Lt4 (.not a) (.not b) :=
  Lt4.map (p := (· + 1)) (e := id) (g := id) (w := id) (Nat.add_lt_add_right · 1) id id id h

theorem Lt4.quant (q : Quant) (vs : List Var) {a b : Formula} (h : Lt4 a b) :
    Lt4 (.quant q vs a) (.quant q vs b) :=
  Lt4.map (p := (· + 1)) (e := id) (g := (countGeneral vs + ·)) (w := (vs.length + ·))
    (Nat.add_lt_add_right · 1) id (Nat.add_lt_add_left · _) (Nat.add_lt_add_left · _) h

theorem Lt4.binL (c : Conn) (r : Formula) {a b : Formula} (h : Lt4 a b) :
    Lt4 (.bin c a r) (.bin c b r) :=
  Lt4.map (p := (· * r.pw + c.off)) (e := (· + r.ew)) (g := (· + r.gw)) (w := (· + r.bw))
    (fun h => Nat.add_lt_add_right (Nat.mul_lt_mul_of_pos_right h r.pw_pos) _)
    (Nat.add_lt_add_right · _) (Nat.add_lt_add_right · _) (Nat.add_lt_add_right · _) h

theorem Lt4.binR (c : Conn) (l : Formula) {a b : Formula} (h : Lt4 a b) :
    Lt4 (.bin c l a) (.bin c l b) :=
  Lt4.map (p := (l.pw * · + c.off)) (e := (l.ew + ·)) (g := (l.gw + ·)) (w := (l.bw + ·))
    (fun h => Nat.add_lt_add_right (Nat.mul_lt_mul_of_pos_left h l.pw_pos) _)
    (Nat.add_lt_add_left · _) (Nat.add_lt_add_left · _) (Nat.add_lt_add_left · _) h

theorem Le4.ctx {a b : Formula} (C : Formula → Formula) (hC : ∀ {a b}, Lt4 a b → Lt4 (C a) (C b)) :
    Le4 a b → Le4 (C a) (C b) :=
  Or.imp (congrArg C) hC

theorem compose_le4 {fs : List (Formula → Formula)} (h : ∀ f ∈ fs, ∀ F, Le4 (f F) F) (F : Formula) :
    Le4 (compose fs F) F :=
  compose_keeps (I := (Le4 · F)) (fun f hf G hG => (h f hf G).trans hG) F (Le4.refl F)

theorem applyPost_le4 {f : Formula → Formula} (hf : ∀ F, Le4 (f F) F) : ∀ F, Le4 (applyPost f F) F := by
  intro F
  induction F with
  | atomic _ => exact hf _
  | not g ih => exact (hf _).trans (ih.ctx .not Lt4.not)
  | bin c l r ihl ihr =>
    exact (hf _).trans ((ihl.ctx (.bin c · _) (Lt4.binL c _)).trans (ihr.ctx (.bin c l) (Lt4.binR c l)))
  | quant q vs g ih => exact (hf _).trans (ih.ctx (.quant q vs) (Lt4.quant q vs))

/-- The fixpoint loop terminates: the flag of `applyFixpointFuel` says that a pass left the formula
    unchanged, so that the loop ended by itself and not for lack of fuel. -/
theorem applyFixpoint_terminates {f : Formula → Formula} (hf : ∀ F, Le4 (f F) F) (F : Formula) :
    ∃ n, (applyFixpointFuel f n F).2 = true := by
  induction F using lt4_wf.induction with
  | _ F ih =>
    by_cases e : F = applyPost f F
    · exact ⟨0, decide_eq_true e.symm⟩
    · obtain ⟨n, hn⟩ := ih _ ((applyPost_le4 hf F).resolve_left (Ne.symm e))
      exact ⟨n + 1, by rw [applyFixpointFuel_of_ne e]; exact hn⟩

theorem bin_pw_gt_left (c : Conn) (l r : Formula) : l.pw < (Formula.bin c l r).pw :=
  Nat.lt_add_right _ ((Nat.lt_mul_iff_one_lt_right l.pw_pos).2 r.pw_ge)

theorem bin_pw_gt_right (c : Conn) (l r : Formula) : r.pw < (Formula.bin c l r).pw :=
  Nat.lt_add_right _ ((Nat.lt_mul_iff_one_lt_left r.pw_pos).2 l.pw_ge)

theorem tru_lt_bin (c : Conn) (l r : Formula) : Formula.tru.pw < (Formula.bin c l r).pw :=
  Nat.lt_of_le_of_lt l.pw_ge (bin_pw_gt_left c l r)

theorem fls_lt_bin (c : Conn) (l r : Formula) : Formula.fls.pw < (Formula.bin c l r).pw :=
  tru_lt_bin c l r

def prodPw : List Formula → Nat
  | [] => 1
  | f :: fs => f.pw * prodPw fs

theorem prodPw_pos (l : List Formula) : 0 < prodPw l := by
  induction l with
  | nil => exact Nat.one_pos
  | cons f _ ih => exact Nat.mul_pos f.pw_pos ih

theorem foldl_and_pw (fs : List Formula) : ∀ acc : Formula,
    (fs.foldl (fun acc e => Formula.bin .and acc e) acc).pw = acc.pw * prodPw fs := by
  induction fs with
  | nil => exact fun _ => (Nat.mul_one _).symm
  | cons _ _ ih => exact fun _ => (ih _).trans (Nat.mul_assoc _ _ _)

theorem conjoin_pw_cons (f : Formula) (fs : List Formula) : (conjoin (f :: fs)).pw = prodPw (f :: fs) :=
  foldl_and_pw fs f

theorem foldl_and_ew (fs : List Formula) : ∀ acc : Formula,
    (fs.foldl (fun acc e => Formula.bin .and acc e) acc).ew = acc.ew + (fs.map Formula.ew).sum := by
  induction fs with
  | nil => exact fun _ => rfl
  | cons _ _ ih => exact fun _ => (ih _).trans (Nat.add_assoc _ _ _)

/-- what substitution does to the measure (`subst_measure`) -/
def MuLe (a b : Formula) : Prop := a.pw ≤ b.pw ∧ a.ew ≤ b.ew ∧ a.gw = b.gw ∧ a.bw = b.bw

theorem MuLe.refl (a : Formula) : MuLe a a := ⟨Nat.le_refl _, Nat.le_refl _, rfl, rfl⟩

theorem MuLe.trans {a b c : Formula} (h : MuLe a b) (k : MuLe b c) : MuLe a c :=
  ⟨Nat.le_trans h.1 k.1, Nat.le_trans h.2.1 k.2.1, h.2.2.1.trans k.2.2.1, h.2.2.2.trans k.2.2.2⟩

theorem MuLe.quantify_le (f : Formula) (q : Quant) (vs : List Var) : MuLe (f.quantify q vs) (.quant q vs f) := by
  cases vs with
  | nil => exact ⟨Nat.le_succ _, Nat.le_refl _, (Nat.zero_add _).symm, (Nat.zero_add _).symm⟩
  | cons => exact .refl _

theorem evalCmpLoop_length : ∀ (gs : List Guard) (t : GTerm), (evalCmpLoop t gs).length = gs.length := by
  intro gs
  induction gs with
  | nil => exact fun _ => rfl
  | cons g _ ih => exact fun _ => congrArg (· + 1) (ih g.term)

theorem evalCmpLoop_cons (t : GTerm) (g : Guard) (gs : List Guard) :
    ∃ e, evalCmpLoop t (g :: gs) = e :: evalCmpLoop g.term gs ∧
      (e = .tru ∨ e = .fls ∨ e = .atomic (.cmp t [g])) := by
  refine ⟨_, rfl, ?_⟩
  split
  · split
    iterate 3 exact .inl rfl
    iterate 3 exact .inr (.inl rfl)
  · exact .inr (.inr rfl)

theorem evalCmpLoop_pw : ∀ (gs : List Guard) (t : GTerm), prodPw (evalCmpLoop t gs) ≤ 3 ^ gs.length := by
  intro gs
  induction gs with
  | nil => exact fun _ => Nat.le_refl 1
  | cons g gs ih =>
    intro t
    obtain ⟨e, he, h⟩ := evalCmpLoop_cons t g gs
    rw [he, List.length_cons, Nat.pow_succ, Nat.mul_comm]
    refine Nat.mul_le_mul ?_ (ih g.term)
    rcases h with rfl | rfl | rfl
    · exact Nat.le_succ 2
    · exact Nat.le_succ 2
    · exact Nat.le_refl 3

theorem evaluateComparisons_le4 (F : Formula) : Le4 (evaluateComparisons F) F := by
  unfold evaluateComparisons
  split
  · rename_i t gs
    cases gs with
    | nil => exact .of_pw (Nat.lt_succ_self 2)
    | cons g gs =>
      obtain ⟨e, he, h⟩ := evalCmpLoop_cons t g gs
      rw [he]
      cases gs with
      | nil =>
        rcases h with rfl | rfl | rfl
        · exact .of_pw (Nat.lt_succ_self 2)
        · exact .of_pw (Nat.lt_succ_self 2)
        · exact .refl _
      | cons g' gs =>
        -- a product of at most `3 ^ n` against `3 ^ n + 1`
        have hp := evalCmpLoop_pw (g :: g' :: gs) t
        rw [he] at hp
        exact .of_pw (Nat.lt_succ_of_le (Nat.le_trans (Nat.le_of_eq (conjoin_pw_cons _ _)) hp))
  · exact .refl _

theorem applyNegationDefinitionInverse_le4 (F : Formula) : Le4 (applyNegationDefinitionInverse F) F := by
  unfold applyNegationDefinitionInverse
  split
  · rename_i l
    -- `l.pw + 1 < l.pw * 2 + 1`
    exact .of_pw (Nat.succ_lt_succ ((Nat.lt_mul_iff_one_lt_right l.pw_pos).2 (Nat.lt_succ_self 1)))
  · exact .refl _

theorem applyReverseImplicationDefinition_le4 (F : Formula) : Le4 (applyReverseImplicationDefinition F) F := by
  unfold applyReverseImplicationDefinition
  split
  · rename_i l r
    refine .of_pw ?_
    simp only [Formula.pw, Conn.off, Nat.mul_comm r.pw l.pw]
    exact Nat.lt_succ_self _
  · exact .refl _

theorem applyEquivalenceDefinitionInverse_le4 (F : Formula) : Le4 (applyEquivalenceDefinitionInverse F) F := by
  unfold applyEquivalenceDefinitionInverse
  split
  · rename_i a b c d
    refine ite_ind (Le4 · _) (fun h => ?_) fun _ => .refl _
    obtain ⟨rfl, rfl⟩ := h
    -- with `n = a.pw * b.pw + 1`: `n < n * n`
    refine .of_pw ?_
    simp only [Formula.pw, Conn.off, Nat.add_zero, Nat.mul_comm b.pw a.pw]
    exact (Nat.lt_mul_iff_one_lt_right (Nat.succ_pos _)).2 (Nat.succ_lt_succ (Nat.mul_pos a.pw_pos b.pw_pos))
  · exact .refl _

theorem removeIdentities_le4 (F : Formula) : Le4 (removeIdentities F) F := by
  unfold removeIdentities
  split
  · exact .of_pw (bin_pw_gt_left _ _ _)
  · exact .of_pw (bin_pw_gt_right _ _ _)
  · exact .of_pw (bin_pw_gt_left _ _ _)
  · exact .of_pw (bin_pw_gt_right _ _ _)
  · exact .of_pw (bin_pw_gt_right _ _ _)
  · exact .refl _

theorem removeAnnihilations_le4 (F : Formula) : Le4 (removeAnnihilations F) F := by
  unfold removeAnnihilations
  split
  -- six cases return `#true` or `#false`, both of weight 2
  iterate 6 exact .of_pw (tru_lt_bin _ _ _)
  · exact ite_ind (Le4 · _) (fun _ => .of_pw (tru_lt_bin _ _ _)) fun _ => .refl _
  · exact .refl _

theorem removeIdempotences_le4 (F : Formula) : Le4 (removeIdempotences F) F := by
  unfold removeIdempotences
  split
  · exact ite_ind (Le4 · _) (fun _ => .of_pw (bin_pw_gt_left _ _ _)) fun _ => .refl _
  · exact ite_ind (Le4 · _) (fun _ => .of_pw (bin_pw_gt_left _ _ _)) fun _ => .refl _
  · exact .refl _

theorem countGeneral_filter_le (p : Var → Bool) (vs : List Var) : countGeneral (vs.filter p) ≤ countGeneral vs :=
  (List.filter_sublist.filter _).length_le

theorem removeOrphanedVariables_le4 (F : Formula) : Le4 (removeOrphanedVariables F) F := by
  unfold removeOrphanedVariables
  split
  · rename_i q vs f
    -- the list gets shorter, or nothing is dropped
    rcases Nat.lt_or_eq_of_le (List.length_filter_le (· ∈ f.fv) vs) with h | h
    · exact .inr (.inr ⟨rfl, .inr ⟨rfl, lexStep_of_le (Nat.add_le_add_right (countGeneral_filter_le _ vs) _)
        (Nat.add_lt_add_right h _)⟩⟩)
    · rw [List.filter_sublist.eq_of_length h]
      exact .refl _
  · exact .refl _

theorem removeEmptyQuantifications_le4 (F : Formula) : Le4 (removeEmptyQuantifications F) F := by
  unfold removeEmptyQuantifications
  split
  · exact ite_ind (Le4 · _) (fun _ => .of_pw (Nat.lt_succ_self _)) fun _ => .refl _
  · exact .refl _

theorem joinNestedQuantifiers_le4 (F : Formula) : Le4 (joinNestedQuantifiers F) F := by
  unfold joinNestedQuantifiers
  split
  · rename_i q vs q' vs' f
    exact ite_ind (Le4 · _) (fun _ => .of_pw (Nat.lt_succ_of_le (MuLe.quantify_le f q _).1)) fun _ => .refl _
  · exact .refl _

end Anthem
