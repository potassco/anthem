/-
  C02 for tasks whose user guide may declare placeholders. A program with placeholders is read as the
  reference semantics prescribes: every placeholder is replaced by the precomputed term the interpretation
  assigns to it (`p.substSym (phNu m J.fc)`). First the stage lemma for every accepted task, with or
  without a proof outline (`Outline.externalProblems_outline`, on which Proofs/ExternalValid and
  Proofs/PanicFree build); then the two-sided statements for tasks without an outline
  (`WitnessPrograms`, `WitnessSpec`), and the forms without placeholders.
-/
import AnthemModel.Proofs.ExternalSemGen
import AnthemModel.Props.C11
import AnthemModel.Proofs.PhProgram
namespace Anthem
open Asp

theorem ugAss_fold_ph (ug : UserGuide) (m : PlaceholderMap) : ∀ (l : List SAnn) (acc : List SAnn) (res : List SAnn),
    l.foldl (ugAssStep ug m) (.ok acc) = .ok res →
      res = acc ++ (l.filter (fun f => f.role = .assumption)).map (SAnn.replacePlaceholders m) := by
  have habs : ∀ (l : List SAnn) (e : TaskError), l.foldl (ugAssStep ug m) (.err e) = .err e := by
    intro l
    induction l with
    | nil => intro e; rfl
    | cons g l ihl => intro e; exact ihl e
  intro l
  induction l with
  | nil => intro acc res h; rw [Outcome.ok.inj h]; simp
  | cons f l ih =>
    intro acc res h
    rw [List.foldl_cons] at h
    have hstep : ugAssStep ug m (.ok acc) f = if f.role = .assumption then
        if f.formula.preds.any (· ∈ ug.outputs) then .err .outputPredicateInUserGuideAssumption
        else .ok (acc ++ [f.replacePlaceholders m]) else .ok acc := rfl
    rw [hstep] at h
    by_cases hr : f.role = .assumption
    · rw [if_pos hr] at h
      by_cases hany : f.formula.preds.any (· ∈ ug.outputs) = true
      · rw [if_pos hany, habs] at h; cases h
      · rw [if_neg hany] at h
        rw [ih _ _ h, List.filter_cons_of_pos (by simpa using hr), List.map_cons, List.append_assoc]; rfl
    · rw [if_neg hr] at h
      rw [ih _ _ h, List.filter_cons_of_neg (by simpa using hr)]

def ExternalTask.phMap (t : ExternalTask) : PlaceholderMap := mkPlaceholderMap t.userGuide.placeholders

def ExternalTask.ugAss (t : ExternalTask) : List SAnn :=
  (t.userGuide.formulas.filter fun f => f.role = .assumption).map (SAnn.replacePlaceholders t.phMap)

theorem ugAss_sat_iff (t : ExternalTask) (J : Interp) (ρ : Asg) :
    (∀ a ∈ t.ugAss, sat J a.formula ρ) ↔
      ∀ a ∈ t.userGuide.formulas, a.role = .assumption → sat J (a.formula.replacePlaceholders t.phMap) ρ := by
  simp only [ExternalTask.ugAss, List.forall_mem_map, List.mem_filter, decide_eq_true_eq, and_imp]
  rfl

theorem rolesAS_map_replace (m : PlaceholderMap) {l : List SAnn} (h : RolesAS l) :
    RolesAS (l.map (SAnn.replacePlaceholders m)) := by
  intro a ha
  obtain ⟨a0, ha0, rfl⟩ := List.mem_map.mp ha
  exact h a0 ha0

namespace Outline

def takenOf (t : ExternalTask) (left : List SAnn) (ΓR : Theory) : List Pred :=
  (rightSide t ΓR).foldl (fun acc a => ext acc a.formula.preds)
    (left.foldl (fun acc a => ext acc a.formula.preds) t.userGuide.inputs)

theorem externalProblems_outline (t : ExternalTask) (fuel : Nat) (ps : List Problem)
    (h : externalProblems t fuel = .ok ps) :
    precheck t = none ∧ ∃ (left : List SAnn) (ΓR : Theory) (po : ProofOutline), RolesAS left ∧
      (match t.specification with
        | .inl PL => ∃ ΓL, theoryTranslate t t.phMap fuel PL = .ok ΓL ∧ left = controlTranslate t.userGuide.publicPreds ΓL
        | .inr S => left = S.map (SAnn.replacePlaceholders t.phMap)) ∧
      theoryTranslate t t.phMap fuel t.program = .ok ΓR ∧
      proofOutlineFrom t.proofOutline (takenOf t left ΓR) t.phMap = .ok po ∧
      ps = assembledProblems (assembledGen t left t.ugAss ΓR) po t.decomposition t.direction := by
  unfold externalProblems at h
  cases hpre : precheck t with
  | some e => rw [hpre] at h; cases h
  | none =>
    rw [hpre] at h
    dsimp only at h
    have tail : ∀ (left : List SAnn), RolesAS left →
        (do
          let rightTh ← theoryTranslate t t.phMap fuel t.program
          let right := (controlTranslate t.userGuide.publicPreds rightTh).map fun a =>
            { a with formula := a.formula.renamePreds t.clashMap }
          let ugAss ← t.userGuide.formulas.foldl (ugAssStep t.userGuide t.phMap) (.ok [])
          let taken := right.foldl (fun acc a => ext acc a.formula.preds)
            (left.foldl (fun acc a => ext acc a.formula.preds) t.userGuide.inputs)
          let po ← proofOutlineFrom t.proofOutline taken t.phMap
          let asm ← assemble left right ugAss t.breakEq
          pure (assembledProblems asm po t.decomposition t.direction)) = Outcome.ok ps →
        ∃ ΓR po, theoryTranslate t t.phMap fuel t.program = .ok ΓR ∧
          proofOutlineFrom t.proofOutline (takenOf t left ΓR) t.phMap = .ok po ∧
          ps = assembledProblems (assembledGen t left t.ugAss ΓR) po t.decomposition t.direction := by
      intro left hroles h
      obtain ⟨ΓR, hR, h⟩ := Outcome.bind_eq_ok h
      obtain ⟨ugAss, hU, h⟩ := Outcome.bind_eq_ok h
      obtain ⟨po, hPO, h⟩ := Outcome.bind_eq_ok h
      obtain ⟨asm, hasm, h⟩ := Outcome.bind_eq_ok h
      cases ugAss_fold_ph t.userGuide t.phMap _ [] ugAss hU
      cases (assemble_gen t left t.ugAss ΓR hroles).symm.trans hasm
      cases h
      exact ⟨ΓR, po, hR, hPO, rfl⟩
    cases hspec : t.specification with
    | inl PL =>
      rw [hspec] at h
      obtain ⟨ΓL, hL, h⟩ := Outcome.bind_eq_ok h
      obtain ⟨_, ⟨⟩, h⟩ := Outcome.bind_eq_ok h
      have hroles : RolesAS (controlTranslate t.userGuide.publicPreds ΓL) :=
        rolesAS_of_univ fun a ha => ((controlTranslate_spec _ ΓL).1 a ha).2
      obtain ⟨ΓR, po, h1, h2, h3⟩ := tail _ hroles h
      exact ⟨rfl, _, ΓR, po, hroles, ⟨ΓL, hL, rfl⟩, h1, h2, h3⟩
    | inr S =>
      rw [hspec] at h
      obtain ⟨_, ⟨⟩, h⟩ := Outcome.bind_eq_ok h
      have hroles := rolesAS_map_replace t.phMap (precheck_spec t S hspec hpre).2
      obtain ⟨ΓR, po, h1, h2, h3⟩ := tail _ hroles h
      exact ⟨rfl, _, ΓR, po, hroles, rfl, h1, h2, h3⟩

end Outline

theorem externalProblems_ph (t : ExternalTask) (hpo : t.proofOutline = []) (fuel : Nat) (ps : List Problem)
    (h : externalProblems t fuel = .ok ps) :
    precheck t = none ∧ ∃ (left : List SAnn) (ΓR : Theory), RolesAS left ∧
      (match t.specification with
        | .inl PL => ∃ ΓL, theoryTranslate t t.phMap fuel PL = .ok ΓL ∧ left = controlTranslate t.userGuide.publicPreds ΓL
        | .inr S => left = S.map (SAnn.replacePlaceholders t.phMap)) ∧
      theoryTranslate t t.phMap fuel t.program = .ok ΓR ∧
      ps = assembledProblems (assembledGen t left t.ugAss ΓR) {} t.decomposition t.direction := by
  obtain ⟨hpre, left, ΓR, po, hroles, hleft, hR, hPO, hps⟩ := Outline.externalProblems_outline t fuel ps h
  rw [hpo] at hPO
  cases hPO
  exact ⟨hpre, left, ΓR, hroles, hleft, hR, hps⟩

theorem theory_stable_ph (t : ExternalTask) (hbyp : t.bypassTightness = false) (p : Program) (priv : List Pred)
    (hperr : programError t p priv = none) (fuel : Nat) (Γ : Theory)
    (hΓ : theoryTranslate t t.phMap fuel p = .ok Γ) (T : PredI) (fc : FcI) (ρ : Asg) :
    (∀ F ∈ Γ, sat ⟨T, fc⟩ F ρ) ↔
      Stable (p.substSym (phNu t.phMap fc)) t.userGuide.inputs (restrictTo (ext p.preds t.userGuide.inputs) T) fc ∧
      OutputsEmpty t p T := by
  obtain ⟨ht, _, hins⟩ := C11.programError_none hperr
  have ht' : isTight p = true := ht.resolve_right (by simp [hbyp])
  obtain ⟨Γ0, hΓ0, hsem⟩ := theoryTranslate_ok_ph t t.phMap fuel p Γ hΓ ⟨T, fc⟩
  have hst := completion_stable (p.substSym (phNu t.phMap fc)) t.userGuide.inputs
    (by rw [isTight_substSym]; exact ht') (by rw [Program.headPreds_substSym]; exact hins) Γ0 hΓ0 T fc ρ
  rw [Program.preds_substSym] at hst
  rw [← hst, ← hsem ρ]

theorem rightSide_stable_ph (t : ExternalTask) (hbyp : t.bypassTightness = false) (hpre : precheck t = none)
    (fuel : Nat) (ΓR : Theory) (hR : theoryTranslate t t.phMap fuel t.program = .ok ΓR) (J : Interp) (ρ : Asg) :
    (∀ a ∈ rightSide t ΓR, sat J a.formula ρ) ↔
      Stable (t.program.substSym (phNu t.phMap J.fc)) t.userGuide.inputs
        (restrictTo (ext t.program.preds t.userGuide.inputs)
          (renamedInterp t.clashMap J.pred)) J.fc ∧
      OutputsEmpty t t.program (renamedInterp t.clashMap J.pred) := by
  rw [← theory_stable_ph t hbyp t.program _ (precheck_inv t hpre).2.1 fuel ΓR hR _ J.fc ρ]
  simp only [rightSide, List.forall_mem_map, sat_renamePreds _ J.pred J.fc]
  exact forall_controlTranslate _ ΓR fun F => sat ⟨renamedInterp t.clashMap J.pred, J.fc⟩ F ρ

/-- `J` witnesses a difference of the two programs: it satisfies the user-guide assumptions and, in a
    requested direction, is a stable model of one program (the block `Stable .. ∧ OutputsEmpty ..`, which
    Props/C02 names `ProducesL`/`ProducesR`) and satisfies the private definitions of the other without
    being a stable model of it. The right-hand side of `external_refutes_programs_ph`. -/
def WitnessPrograms (t : ExternalTask) (PL : Program) (ΓL ΓR : Theory) (J : Interp) (ρ : Asg) : Prop :=
  (∀ a ∈ t.userGuide.formulas, a.role = .assumption → sat J (a.formula.replacePlaceholders t.phMap) ρ) ∧
  (((t.direction = .universal ∨ t.direction = .forward) ∧
      (Stable (PL.substSym (phNu t.phMap J.fc)) t.userGuide.inputs
        (restrictTo (ext PL.preds t.userGuide.inputs) J.pred) J.fc ∧ OutputsEmpty t PL J.pred) ∧
      (∀ a ∈ rightSide t ΓR, a.role = .assumption → sat J a.formula ρ) ∧
      ¬ (Stable (t.program.substSym (phNu t.phMap J.fc)) t.userGuide.inputs
        (restrictTo (ext t.program.preds t.userGuide.inputs)
          (renamedInterp t.clashMap J.pred)) J.fc ∧
        OutputsEmpty t t.program (renamedInterp t.clashMap J.pred))) ∨
   ((t.direction = .universal ∨ t.direction = .backward) ∧
      (Stable (t.program.substSym (phNu t.phMap J.fc)) t.userGuide.inputs
        (restrictTo (ext t.program.preds t.userGuide.inputs)
          (renamedInterp t.clashMap J.pred)) J.fc ∧
        OutputsEmpty t t.program (renamedInterp t.clashMap J.pred)) ∧
      (∀ a ∈ leftSide t ΓL, a.role = .assumption → sat J a.formula ρ) ∧
      ¬ (Stable (PL.substSym (phNu t.phMap J.fc)) t.userGuide.inputs
        (restrictTo (ext PL.preds t.userGuide.inputs) J.pred) J.fc ∧ OutputsEmpty t PL J.pred)))

/-- the same for a specification `S` on the left: its formulas by role and direction (`lStable`,
    `lFwdPrem`, `lBwdConc`) in place of the left program. The right-hand side of `external_refutes_spec_ph`. -/
def WitnessSpec (t : ExternalTask) (S : Specification) (ΓR : Theory) (J : Interp) (ρ : Asg) : Prop :=
  (∀ a ∈ t.userGuide.formulas, a.role = .assumption → sat J (a.formula.replacePlaceholders t.phMap) ρ) ∧
  (∀ a ∈ S, lStable a = true → sat J (a.formula.replacePlaceholders t.phMap) ρ) ∧
  (∀ a ∈ rightSide t ΓR, a.role = .assumption → sat J a.formula ρ) ∧
  (((t.direction = .universal ∨ t.direction = .forward) ∧
      (∀ a ∈ S, lFwdPrem a = true → sat J (a.formula.replacePlaceholders t.phMap) ρ) ∧
      ¬ (Stable (t.program.substSym (phNu t.phMap J.fc)) t.userGuide.inputs
        (restrictTo (ext t.program.preds t.userGuide.inputs)
          (renamedInterp t.clashMap J.pred)) J.fc ∧
        OutputsEmpty t t.program (renamedInterp t.clashMap J.pred))) ∨
   ((t.direction = .universal ∨ t.direction = .backward) ∧
      (Stable (t.program.substSym (phNu t.phMap J.fc)) t.userGuide.inputs
        (restrictTo (ext t.program.preds t.userGuide.inputs)
          (renamedInterp t.clashMap J.pred)) J.fc ∧
        OutputsEmpty t t.program (renamedInterp t.clashMap J.pred)) ∧
      ∃ a ∈ S, lBwdConc a = true ∧ ¬ sat J (a.formula.replacePlaceholders t.phMap) ρ))

/-- **C02, specification against program, with placeholders** (no proof outline, tightness not
    bypassed). -/
theorem external_refutes_spec_ph (t : ExternalTask) (S : Specification) (hspec : t.specification = .inr S)
    (hpo : t.proofOutline = []) (hbyp : t.bypassTightness = false)
    (fuel : Nat) (ps : List Problem) (h : externalProblems t fuel = .ok ps) :
    ∃ ΓR, theoryTranslate t t.phMap fuel t.program = .ok ΓR ∧
      (NoSymbolConflictGen (assembledGen t (S.map (SAnn.replacePlaceholders t.phMap)) t.ugAss ΓR) →
        ∀ (J : Interp) (ρ : Asg),
        ((∃ P ∈ ps, Refutes J ρ P) ↔ WitnessSpec t S ΓR J ρ)) := by
  obtain ⟨hpre, left, ΓR, _, hleft, hR, hps⟩ := externalProblems_ph t hpo fuel ps h
  simp only [hspec] at hleft
  subst hleft
  refine ⟨ΓR, hR, fun hnc J ρ => ?_⟩
  unfold WitnessSpec
  rw [hps, assembled_refutes t _ _ ΓR hnc J ρ _ (rightSide_stable_ph t hbyp hpre fuel ΓR hR J ρ), ugAss_sat_iff]
  have hex : (∃ a ∈ S.map (SAnn.replacePlaceholders t.phMap), lBwdConc a = true ∧ ¬ sat J a.formula ρ) ↔
      ∃ a ∈ S, lBwdConc a = true ∧ ¬ sat J (a.formula.replacePlaceholders t.phMap) ρ := by
    simp only [List.mem_map]
    exact ⟨fun ⟨_, ⟨a, ha, rfl⟩, h⟩ => ⟨a, ha, h⟩, fun ⟨a, ha, h⟩ => ⟨_, ⟨a, ha, rfl⟩, h⟩⟩
  rw [hex]
  simp only [List.forall_mem_map]
  rfl

/-- **C02, program against program, with placeholders** (no proof outline, tightness not bypassed):
    the statement of `external_refutes_programs` with each program read through the values the
    interpretation gives to the placeholders. -/
theorem external_refutes_programs_ph (t : ExternalTask) (PL : Program) (hspec : t.specification = .inl PL)
    (hpo : t.proofOutline = []) (hbyp : t.bypassTightness = false)
    (fuel : Nat) (ps : List Problem) (h : externalProblems t fuel = .ok ps) :
    ∃ ΓL ΓR, theoryTranslate t t.phMap fuel PL = .ok ΓL ∧ theoryTranslate t t.phMap fuel t.program = .ok ΓR ∧
      (NoSymbolConflictGen (assembledGen t (leftSide t ΓL) t.ugAss ΓR) → ∀ (J : Interp) (ρ : Asg),
        ((∃ P ∈ ps, Refutes J ρ P) ↔ WitnessPrograms t PL ΓL ΓR J ρ)) := by
  obtain ⟨hpre, left, ΓR, _, hleft, hR, hps⟩ := externalProblems_ph t hpo fuel ps h
  simp only [hspec] at hleft
  obtain ⟨ΓL, hL, (rfl : left = leftSide t ΓL)⟩ := hleft
  refine ⟨ΓL, ΓR, hL, hR, fun hnc J ρ => ?_⟩
  unfold WitnessPrograms
  have hStR := rightSide_stable_ph t hbyp hpre fuel ΓR hR J ρ
  have hStL : (∀ a ∈ leftSide t ΓL, sat J a.formula ρ) ↔ _ :=
    (forall_controlTranslate t.userGuide.publicPreds ΓL (fun F => sat J F ρ)).trans
      (theory_stable_ph t hbyp PL _ (precheck_programs t PL hspec hpre).2 fuel ΓL hL J.pred J.fc ρ)
  have huL := leftSide_univ t ΓL
  obtain ⟨hA, hF, hC⟩ := univSA_selectors huL fun a => sat J a.formula ρ
  rw [hps, assembled_refutes t _ _ ΓR hnc J ρ _ hStR, ugAss_sat_iff, hA, hF, hC, ← hStL, ← hStR,
    side_allTrue J ρ _ huL, side_allTrue J ρ _ (rightSide_univ t ΓR)]
  /- Both sides now speak of the annotated formulas only. With `la`/`ls` (`ra`/`rs`) for "the assumptions /
     the spec formulas of the left (right) side hold" the goal is
       `ug ∧ la ∧ ra ∧ (fwd ∧ ls ∧ ¬(ra ∧ rs) ∨ bwd ∧ (ra ∧ rs) ∧ ¬ls)
        ↔ ug ∧ (fwd ∧ (la ∧ ls) ∧ ra ∧ ¬(ra ∧ rs) ∨ bwd ∧ (ra ∧ rs) ∧ la ∧ ¬(la ∧ ls))`. -/
  constructor
  · rintro ⟨hu, hla, hra, ⟨hd, hls, hn⟩ | ⟨hd, hr, hn⟩⟩
    · exact ⟨hu, Or.inl ⟨hd, ⟨hla, hls⟩, hra, hn⟩⟩
    · exact ⟨hu, Or.inr ⟨hd, hr, hla, fun hall => hn hall.2⟩⟩
  · rintro ⟨hu, ⟨hd, ⟨hla, hls⟩, hra, hn⟩ | ⟨hd, hr, hla, hn⟩⟩
    · exact ⟨hu, hla, hra, Or.inl ⟨hd, hls, hn⟩⟩
    · exact ⟨hu, hla, hr.1, Or.inr ⟨hd, hr, fun hls => hn ⟨hla, hls⟩⟩⟩

theorem Term.substSym_id : ∀ t : Term, t.substSym (fun s => .sym s) = t := by
  intro t
  induction t with
  | pre p => cases p <;> rfl
  | var x => rfl
  | neg t ih => simp only [Term.substSym, ih]
  | bin op l r ihl ihr => simp only [Term.substSym, ihl, ihr]

theorem Program.substSym_id (p : Program) : p.substSym (fun s => .sym s) = p := by
  have hatom : ∀ a : Asp.Atom, a.substSym (fun s => .sym s) = a := fun a => by
    rw [Asp.Atom.substSym, List.map_id'' Term.substSym_id]
  have hbody : ∀ f : BodyAtom, f.substSym (fun s => .sym s) = f := by
    intro f
    cases f with
    | lit l => rw [BodyAtom.substSym, hatom]
    | cmp rel l r => rw [BodyAtom.substSym, Term.substSym_id, Term.substSym_id]
  have hhead : ∀ h : Head, h.substSym (fun s => .sym s) = h := by
    intro h
    cases h <;> simp only [Asp.Head.substSym, hatom]
  exact List.map_id'' (fun r => by rw [Asp.Rule.substSym, hhead, List.map_id'' hbody]) p

theorem phNu_nil (fc : FcI) : phNu [] fc = fun s => .sym s := rfl

theorem phMap_nil (t : ExternalTask) (hph : t.userGuide.placeholders = []) : t.phMap = [] := by
  unfold ExternalTask.phMap
  rw [hph]; rfl

theorem ugAss_nil (t : ExternalTask) (hph : t.userGuide.placeholders = []) :
    t.ugAss = t.userGuide.formulas.filter fun f => f.role = .assumption := by
  rw [ExternalTask.ugAss, phMap_nil t hph, List.map_id'' SAnn.replacePlaceholders_nil]

def assembledPrograms (t : ExternalTask) (ΓL ΓR : Theory) : Assembled :=
  let left := controlTranslate t.userGuide.publicPreds ΓL
  let right := rightSide t ΓR
  let ug := t.userGuide.formulas.filter fun f => f.role = .assumption
  { stable := ug.map (·.toProblem .axiom) ++ (left.filter isAss).map (·.toProblem .axiom) ++
      (right.filter isAss).map (·.toProblem .axiom),
    fwdPremises := (left.filter isSpec).map (·.toProblem .axiom),
    fwdConclusions := (right.filter isSpec).flatMap (conjOf t.breakEq),
    bwdPremises := (right.filter isSpec).map (·.toProblem .axiom),
    bwdConclusions := (left.filter isSpec).flatMap (conjOf t.breakEq) }

def NoSymbolConflictExt (t : ExternalTask) (ΓL ΓR : Theory) : Prop :=
  let a := assembledPrograms t ΓL ΓR
  (mkProblem0 "forward_problem" [a.stable, a.fwdPremises, [], a.fwdConclusions]).renameConflictingSymbols =
    mkProblem0 "forward_problem" [a.stable, a.fwdPremises, [], a.fwdConclusions] ∧
  (mkProblem0 "backward_problem" [a.stable, a.bwdPremises, [], a.bwdConclusions]).renameConflictingSymbols =
    mkProblem0 "backward_problem" [a.stable, a.bwdPremises, [], a.bwdConclusions]

theorem externalProblems_programs (t : ExternalTask) (PL : Program) (hspec : t.specification = .inl PL)
    (hph : t.userGuide.placeholders = []) (hpo : t.proofOutline = []) (fuel : Nat) (ps : List Problem)
    (h : externalProblems t fuel = .ok ps) :
    precheck t = none ∧ ∃ ΓL ΓR, theoryTranslate t [] fuel PL = .ok ΓL ∧ theoryTranslate t [] fuel t.program = .ok ΓR ∧
      ps = assembledProblems (assembledPrograms t ΓL ΓR) {} t.decomposition t.direction := by
  obtain ⟨hpre, left, ΓR, _, hleft, hR, hps⟩ := externalProblems_ph t hpo fuel ps h
  simp only [hspec] at hleft
  obtain ⟨ΓL, hL, (rfl : left = leftSide t ΓL)⟩ := hleft
  rw [phMap_nil t hph] at hL hR
  refine ⟨hpre, ΓL, ΓR, hL, hR, ?_⟩
  -- on the universal left side the selectors are the roles
  have hsel : ∀ p q : SAnn → Bool, (∀ a, a.direction = .universal → p a = q a) →
      (leftSide t ΓL).filter p = (leftSide t ΓL).filter q :=
    fun p q hpq => List.filter_congr fun a ha => hpq a (leftSide_univ t ΓL a ha).1
  rw [hps, assembledGen, assembledPrograms, ugAss_nil t hph,
    hsel lStable isAss fun a h => (selectors_of_universal h).1,
    hsel lFwdPrem isSpec fun a h => (selectors_of_universal h).2.1,
    hsel lBwdConc isSpec fun a h => (selectors_of_universal h).2.2]
  rfl

/-- **C02 for a specification against a program** (no placeholders, no proof outline, tightness not
    bypassed, every flag combination and every direction annotation). -/
theorem external_refutes_spec (t : ExternalTask) (S : Specification) (hspec : t.specification = .inr S)
    (hph : t.userGuide.placeholders = []) (hpo : t.proofOutline = []) (hbyp : t.bypassTightness = false)
    (fuel : Nat) (ps : List Problem) (h : externalProblems t fuel = .ok ps) :
    ∃ ΓR, theoryTranslate t [] fuel t.program = .ok ΓR ∧
      (NoSymbolConflictSpec t S ΓR → ∀ (J : Interp) (ρ : Asg),
        ((∃ P ∈ ps, Refutes J ρ P) ↔
          (∀ a ∈ t.userGuide.formulas, a.role = .assumption → sat J a.formula ρ) ∧
          (∀ a ∈ S, lStable a = true → sat J a.formula ρ) ∧
          (∀ a ∈ rightSide t ΓR, a.role = .assumption → sat J a.formula ρ) ∧
          (((t.direction = .universal ∨ t.direction = .forward) ∧
              (∀ a ∈ S, lFwdPrem a = true → sat J a.formula ρ) ∧
              ¬ (Stable t.program t.userGuide.inputs
                (restrictTo (ext t.program.preds t.userGuide.inputs)
                  (renamedInterp t.clashMap J.pred)) J.fc ∧
                OutputsEmpty t t.program (renamedInterp t.clashMap J.pred))) ∨
           ((t.direction = .universal ∨ t.direction = .backward) ∧
              (Stable t.program t.userGuide.inputs
                (restrictTo (ext t.program.preds t.userGuide.inputs)
                  (renamedInterp t.clashMap J.pred)) J.fc ∧
                OutputsEmpty t t.program (renamedInterp t.clashMap J.pred)) ∧
              ∃ a ∈ S, lBwdConc a = true ∧ ¬ sat J a.formula ρ)))) := by
  obtain ⟨ΓR, hR, hmain⟩ := external_refutes_spec_ph t S hspec hpo hbyp fuel ps h
  have hm := phMap_nil t hph
  have hasm : assembledGen t (S.map (SAnn.replacePlaceholders t.phMap)) t.ugAss ΓR = assembledSpec t S ΓR := by
    rw [ugAss_nil t hph, hm, List.map_id'' SAnn.replacePlaceholders_nil]; rfl
  rw [hm] at hR
  refine ⟨ΓR, hR, fun hnc J ρ => ?_⟩
  have := hmain (hasm ▸ hnc) J ρ
  simp only [WitnessSpec, hm, replacePlaceholders_nil, phNu_nil, Program.substSym_id] at this
  exact this

end Anthem
