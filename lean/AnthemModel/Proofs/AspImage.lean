/-
  Well-formedness of a tree in two halves: `Shaped` (symbolic constants and predicate symbols are
  `_?[a-z][A-Za-z0-9_]*`, variables are `[A-Z][A-Za-z0-9]*`) and `NoNot` (no name is `not`). The two
  give `WF` (`Program.wf_of`), and every tree the parser model builds is shaped
  (`parseProgram_shaped`, from `parseProgram_wf` of Proofs/AspImageWF).
-/
import AnthemModel.Proofs.AspImageWF
namespace Anthem.Asp

def Term.Shaped : Term → Prop
  | .pre (.sym s) => SymName s.toList
  | .pre _ => True
  | .var x => VarName x.toList
  | .neg a => a.Shaped
  | .bin _ l r => l.Shaped ∧ r.Shaped

def Atom.Shaped (a : Atom) : Prop := SymName a.pred.toList ∧ ∀ t ∈ a.args, t.Shaped

def BodyAtom.Shaped : BodyAtom → Prop
  | .lit l => l.atom.Shaped
  | .cmp _ l r => l.Shaped ∧ r.Shaped

def Head.Shaped : Head → Prop
  | .basic a | .choice a => a.Shaped
  | .falsity => True

def Rule.Shaped (r : Rule) : Prop := r.head.Shaped ∧ ∀ b ∈ r.body, b.Shaped
def Program.Shaped (p : Program) : Prop := ∀ r ∈ p, r.Shaped

def Term.NoNot : Term → Prop
  | .pre (.sym s) => s.toList ≠ ['n', 'o', 't']
  | .pre _ => True
  | .var _ => True
  | .neg a => a.NoNot
  | .bin _ l r => l.NoNot ∧ r.NoNot

def Atom.NoNot (a : Atom) : Prop := a.pred.toList ≠ ['n', 'o', 't'] ∧ ∀ t ∈ a.args, t.NoNot

def BodyAtom.NoNot : BodyAtom → Prop
  | .lit l => l.atom.NoNot
  | .cmp _ l r => l.NoNot ∧ r.NoNot

def Head.NoNot : Head → Prop
  | .basic a | .choice a => a.NoNot
  | .falsity => True

def Rule.NoNot (r : Rule) : Prop := r.head.NoNot ∧ ∀ b ∈ r.body, b.NoNot
def Program.NoNot (p : Program) : Prop := ∀ r ∈ p, r.NoNot

theorem Term.wf_of : ∀ t : Term, t.Shaped → t.NoNot → t.WF
  | .pre (.sym _), h1, h2 => ⟨h1, h2⟩
  | .pre .inf, _, _ | .pre .sup, _, _ | .pre (.num _), _, _ => trivial
  | .var _, h, _ => h
  | .neg a, h1, h2 => wf_of a h1 h2
  | .bin _ l r, h1, h2 => ⟨wf_of l h1.1 h2.1, wf_of r h1.2 h2.2⟩

theorem Atom.wf_of (a : Atom) (h1 : a.Shaped) (h2 : a.NoNot) : a.WF :=
  ⟨h1.1, h2.1, fun t ht => t.wf_of (h1.2 t ht) (h2.2 t ht)⟩

theorem BodyAtom.wf_of : ∀ b : BodyAtom, b.Shaped → b.NoNot → b.WF
  | .lit l, h1, h2 => l.atom.wf_of h1 h2
  | .cmp _ l r, h1, h2 => ⟨l.wf_of h1.1 h2.1, r.wf_of h1.2 h2.2⟩

theorem Head.wf_of : ∀ h : Head, h.Shaped → h.NoNot → h.WF
  | .basic a, h1, h2 | .choice a, h1, h2 => a.wf_of h1 h2
  | .falsity, _, _ => trivial

theorem Program.wf_of (p : Program) (h1 : p.Shaped) (h2 : p.NoNot) : p.WF :=
  fun r hr => ⟨r.head.wf_of (h1 r hr).1 (h2 r hr).1,
    fun b hb => b.wf_of ((h1 r hr).2 b hb) ((h2 r hr).2 b hb)⟩

theorem Term.shaped_of_wf : ∀ t : Term, t.WF → t.Shaped
  | .pre (.sym _), h => h.1
  | .pre .inf, _ | .pre .sup, _ | .pre (.num _), _ => trivial
  | .var _, h => h
  | .neg a, h => shaped_of_wf a h
  | .bin _ l r, h => ⟨shaped_of_wf l h.1, shaped_of_wf r h.2⟩

theorem Atom.WF.shaped {a : Atom} (h : a.WF) : a.Shaped := ⟨h.1, fun t ht => t.shaped_of_wf (h.2.2 t ht)⟩

theorem BodyAtom.WF.shaped : ∀ {b : BodyAtom}, b.WF → b.Shaped
  | .lit _, h => Atom.WF.shaped h
  | .cmp _ l r, h => ⟨l.shaped_of_wf h.1, r.shaped_of_wf h.2⟩

theorem Head.WF.shaped : ∀ {h : Head}, h.WF → h.Shaped
  | .basic _, h | .choice _, h => Atom.WF.shaped h
  | .falsity, _ => trivial

theorem Program.WF.shaped {p : Program} (h : p.WF) : p.Shaped :=
  fun r hr => ⟨(h r hr).1.shaped, fun b hb => ((h r hr).2 b hb).shaped⟩

theorem parseProgram_shaped {text : String} {p : Program} (h : parseProgram text = some p) : p.Shaped :=
  (parseProgram_wf h).shaped

end Anthem.Asp
