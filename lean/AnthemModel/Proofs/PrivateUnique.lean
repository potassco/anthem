/-
  C02/C11: without private recursion, the completed definitions of the private predicates determine
  their extents from the extents of the other predicates.
-/
import AnthemModel.Proofs.CompletionSem
import AnthemModel.Proofs.ExternalSem
namespace Anthem
open Asp C11

theorem bodyAtomSat_congr_preds (T1 T2 : PredI) (fc : FcI) (w : World) (σ : Subst) (f : BodyAtom)
    (h : ∀ q ∈ f.preds, ∀ ds : List Dom, ds.length = q.arity → (T1 q.symbol ds ↔ T2 q.symbol ds)) :
    bodyAtomSat ⟨T1, T1, fc⟩ w σ f ↔ bodyAtomSat ⟨T2, T2, fc⟩ w σ f := by
  cases f with
  | cmp rel l r => exact Iff.rfl
  | lit l =>
    obtain ⟨s, a⟩ := l
    rw [bodyAtomSat_lit, bodyAtomSat_lit]
    refine exists_congr fun ds => and_congr_right fun hv => ?_
    have hq := h a.predicate (by simp [BodyAtom.preds]) ds (by simp [Asp.Atom.predicate, valsList_length hv])
    simp only [Asp.Atom.predicate] at hq
    cases s <;> cases w <;> simp only [signSem, HTI.at, hq]

theorem bodySat_congr_preds (T1 T2 : PredI) (fc : FcI) (w : World) (σ : Subst) (b : List BodyAtom)
    (h : ∀ q ∈ bodyPreds b, ∀ ds : List Dom, ds.length = q.arity → (T1 q.symbol ds ↔ T2 q.symbol ds)) :
    bodySat ⟨T1, T1, fc⟩ w σ b ↔ bodySat ⟨T2, T2, fc⟩ w σ b := by
  unfold bodySat
  exact forall_congr' fun f => imp_congr_right fun hf =>
    bodyAtomSat_congr_preds T1 T2 fc w σ f fun q hq => h q (mem_bodyPreds.mpr ⟨f, hf, hq⟩)

theorem mem_privateEdges {p : Program} {priv : List Pred} {a b : Pred} :
    (a, b) ∈ privateEdges p priv ↔
      ∃ r ∈ p, r.head.predicate = some a ∧ a ∈ priv ∧ b ∈ bodyPreds r.body ∧ b ∈ priv := by
  unfold privateEdges
  rw [List.mem_flatMap]
  refine exists_congr fun r => and_congr_right fun _ => ?_
  cases r.head.predicate with
  | none => simp
  | some h =>
    by_cases hin : h ∈ priv
    · simp only [if_pos hin, List.mem_map, List.mem_filter, decide_eq_true_eq, Prod.mk.injEq, Option.some.injEq]
      constructor
      · rintro ⟨q, ⟨hq, hqp⟩, rfl, rfl⟩; exact ⟨rfl, hin, hq, hqp⟩
      · rintro ⟨rfl, _, hq, hqp⟩; exact ⟨b, ⟨hq, hqp⟩, rfl, rfl⟩
    · simp only [if_neg hin, List.not_mem_nil, Option.some.injEq, false_iff]
      rintro ⟨rfl, ha, _⟩; exact hin ha

theorem privateEdges_target (p : Program) (priv : List Pred) :
    ∀ e ∈ privateEdges p priv, e.2 ∈ p.preds.filter (· ∈ priv) := by
  intro ⟨a, b⟩ he
  obtain ⟨r, hr, _, _, hb, hbp⟩ := mem_privateEdges.mp he
  simp only [List.mem_filter, decide_eq_true_eq]
  exact ⟨mem_program_preds.mpr ⟨r, hr, mem_rule_preds.mpr (Or.inr hb)⟩, hbp⟩

theorem noPrivateRecursion (p : Program) (priv : List Pred) (h : hasPrivateRecursion p priv = false) :
    (∀ r ∈ p, ∀ a, r.head = .choice a → a.predicate ∉ priv) ∧ ∀ v, ¬ Path (privateEdges p priv) v v := by
  unfold hasPrivateRecursion at h
  simp only [Bool.or_eq_false_iff] at h
  obtain ⟨h1, h2⟩ := h
  refine ⟨?_, ?_⟩
  · intro r hr a hh hin
    have := List.any_eq_false.mp h1 r hr
    simp only [hh] at this
    exact this (by simpa using hin)
  · have htgt := privateEdges_target p priv
    intro v hp
    have hsrc : v ∈ p.preds.filter (· ∈ priv) := by
      have hlast : ∀ {x y : Pred}, Path (privateEdges p priv) x y → ∃ c, (c, y) ∈ privateEdges p priv := by
        intro x y hxy
        induction hxy with
        | step he => exact ⟨_, he⟩
        | cons _ _ ih => exact ih
      obtain ⟨c, hc⟩ := hlast hp
      exact htgt _ hc
    have := isCyclic_complete _ _ htgt ⟨v, hsrc, hp⟩
    rw [h2] at this; cases this

/-- the right-hand side of `DefHolds` -/
def SupportedBy (P : Program) (T : PredI) (fc : FcI) (q : String) (ds : List Dom) : Prop :=
  ∃ r ∈ P, ∃ a ch, HeadOf r a ch ∧ a.pred = q ∧ a.args.length = ds.length ∧
    ∃ σ : Subst, valsList σ a.args ds ∧ bodySat ⟨T, T, fc⟩ .there σ r.body ∧ (ch = true → T q ds)

theorem defHolds_iff_supportedBy (P : Program) (T : PredI) (fc : FcI) (q : String) (n : Nat) :
    DefHolds P T fc q n ↔ ∀ ds : List Dom, ds.length = n → (T q ds ↔ SupportedBy P T fc q ds) := by
  unfold DefHolds SupportedBy
  refine forall_congr' fun ds => ?_
  constructor
  · intro h hds; subst hds; exact h rfl
  · intro h hds; subst hds; exact h rfl

/-- private heads are never choice heads, so nothing is read at the head's own predicate -/
theorem supportedBy_congr (P : Program) (priv : List Pred) (hrec : hasPrivateRecursion P priv = false)
    (T1 T2 : PredI) (fc : FcI) (q : String) (ds : List Dom) (hin : (⟨q, ds.length⟩ : Pred) ∈ priv)
    (hnon : ∀ (b : String) (ds' : List Dom), (⟨b, ds'.length⟩ : Pred) ∉ priv → (T1 b ds' ↔ T2 b ds'))
    (hlow : ∀ (b : String) (ds' : List Dom),
      rank (P.preds.filter (· ∈ priv)) (privateEdges P priv) ⟨b, ds'.length⟩ <
        rank (P.preds.filter (· ∈ priv)) (privateEdges P priv) ⟨q, ds.length⟩ → (T1 b ds' ↔ T2 b ds')) :
    SupportedBy P T1 fc q ds ↔ SupportedBy P T2 fc q ds := by
  obtain ⟨hnochoice, hac⟩ := noPrivateRecursion P priv hrec
  unfold SupportedBy
  refine exists_congr fun r => and_congr_right fun hr => exists_congr fun a => exists_congr fun ch =>
    and_congr_right fun hh => and_congr_right fun hpa => and_congr_right fun hla =>
    exists_congr fun σ => and_congr_right fun hv => ?_
  have hhead : r.head.predicate = some ⟨q, ds.length⟩ := by
    rw [headOf_predicate hh, Asp.Atom.predicate, hpa, hla]
  have hch : ch = false := by
    rcases hh with ⟨_, rfl⟩ | ⟨hh, rfl⟩
    · rfl
    · exact absurd hin (Option.some.inj ((headOf_predicate (Or.inr ⟨hh, rfl⟩)).symm.trans hhead) ▸ hnochoice r hr a hh)
  subst hch
  simp only [Bool.false_eq_true, false_imp_iff, and_true]
  refine bodySat_congr_preds T1 T2 fc .there σ r.body fun b hb ds' hds' => ?_
  obtain ⟨bs, bn⟩ := b
  subst hds'
  by_cases hbp : (⟨bs, ds'.length⟩ : Pred) ∈ priv
  · exact hlow _ ds' (rank_lt _ _ (privateEdges_target P priv) hac
      (Path.step (mem_privateEdges.mpr ⟨r, hr, hhead, hin, hb, hbp⟩)))
  · exact hnon _ ds' hbp

theorem private_extents_unique (P : Program) (priv : List Pred) (hrec : hasPrivateRecursion P priv = false)
    (T1 T2 : PredI) (fc : FcI)
    (hagree : ∀ (q : String) (ds : List Dom), (⟨q, ds.length⟩ : Pred) ∉ priv → (T1 q ds ↔ T2 q ds))
    (h1 : ∀ q ∈ priv, DefHolds P T1 fc q.symbol q.arity) (h2 : ∀ q ∈ priv, DefHolds P T2 fc q.symbol q.arity) :
    ∀ (q : String) (ds : List Dom), (T1 q ds ↔ T2 q ds) := by
  suffices hs : ∀ (n : Nat) (q : String) (ds : List Dom),
      rank (P.preds.filter (· ∈ priv)) (privateEdges P priv) ⟨q, ds.length⟩ = n → (T1 q ds ↔ T2 q ds) from
    fun q ds => hs _ q ds rfl
  intro n
  induction n using Nat.strongRecOn with
  | _ n ih =>
    intro q ds hn
    by_cases hin : (⟨q, ds.length⟩ : Pred) ∈ priv
    · -- both extents are the supported ones
      rw [(defHolds_iff_supportedBy P T1 fc q ds.length).mp (h1 _ hin) ds rfl,
        (defHolds_iff_supportedBy P T2 fc q ds.length).mp (h2 _ hin) ds rfl]
      exact supportedBy_congr P priv hrec T1 T2 fc q ds hin hagree fun b ds' hlt => ih _ (hn ▸ hlt) b ds' rfl
    · exact hagree q ds hin

theorem headPredicate_completeDefinition (A : Anthem.Atom) (fs : List Formula) :
    headPredicate (completeDefinition A fs) = some A.predicate := by
  unfold completeDefinition Formula.quantify
  by_cases h : A.vars.isEmpty = true
  · rw [if_pos h]; rfl
  · rw [if_neg h]; rfl

theorem headPredicate_quantify (F : Formula) (vs : List Var) :
    headPredicate (F.quantify .all vs) = headPredicate F := by
  unfold Formula.quantify
  split
  · rfl
  · rfl

theorem completion_defs_sem (P : Program) (ins : List Pred) (hp : globalsPanic P = false) (Γ : Theory)
    (hΓ : completion (tauStar P) ins = some Γ) (F : Formula) (hF : F ∈ Γ) (q : Pred)
    (hhead : headPredicate F = some q) :
    ∀ (T : PredI) (fc : FcI) (ρ : Asg), sat ⟨T, fc⟩ F ρ ↔ DefHolds P T fc q.symbol q.arity := by
  obtain ⟨Γ', hΓ', hmem⟩ := completion_tauStar P ins
  cases hΓ.symm.trans hΓ'
  intro T fc ρ
  rcases (hmem F).mp hF with ⟨r, _, _, rfl⟩ | ⟨e, he, _, rfl⟩ | ⟨p, _, _, hno, rfl⟩
  · -- a constraint has no head predicate
    unfold Formula.universalClosure at hhead
    rw [headPredicate_quantify] at hhead
    cases hhead
  · obtain ⟨r, hr, a, ch, hh, hA⟩ := entry_head he
    have hla := headOf_le_globals hr hh
    rw [headPredicate_completeDefinition, hA, tauHeadAtom_predicate a _ hla] at hhead
    cases hhead
    exact entry_sem P T fc ρ e.1 e.2 he a hla hA
  · rw [headPredicate_completeDefinition, atomFromPred_predicate] at hhead
    cases hhead
    exact emptyDefinition_defHolds T fc ρ hno

theorem completion_has_def (P : Program) (ins : List Pred) (Γ : Theory)
    (hΓ : completion (tauStar P) ins = some Γ) (q : Pred) (hq : q ∈ P.preds) (hqi : q ∉ ins) :
    ∃ F ∈ Γ, headPredicate F = some q ∧
      ∀ (T : PredI) (fc : FcI) (ρ : Asg), sat ⟨T, fc⟩ F ρ ↔ DefHolds P T fc q.symbol q.arity := by
  obtain ⟨Γ', hΓ', hmem⟩ := completion_tauStar P ins
  cases hΓ.symm.trans hΓ'
  have key : ∃ F ∈ Γ, headPredicate F = some q := by
    by_cases hex : ∃ r ∈ P, ∃ a ch, HeadOf r a ch ∧ a.predicate = q
    · obtain ⟨r, hr, a, ch, hh, rfl⟩ := hex
      obtain ⟨fs, hfs⟩ := entry_exists (chooseFreshGlobals P) hr hh
      have hpe := tauHeadAtom_predicate a _ (headOf_le_globals hr hh)
      exact ⟨_, (hmem _).mpr (Or.inr (Or.inl ⟨_, hfs, by rw [hpe]; exact hqi, rfl⟩)),
        by rw [headPredicate_completeDefinition, hpe]⟩
    · exact ⟨_, (hmem _).mpr (Or.inr (Or.inr ⟨q, tauStar_preds P rfl q hq, hqi,
        fun r hr a ch hh hpe => hex ⟨r, hr, a, ch, hh, hpe⟩, rfl⟩)),
        by rw [headPredicate_completeDefinition, atomFromPred_predicate]⟩
  obtain ⟨F, hF, hhead⟩ := key
  exact ⟨F, hF, hhead, completion_defs_sem P ins rfl Γ hΓ F hF q hhead⟩

theorem stable_sig (P : Program) (ins : List Pred) (T : PredI) (fc : FcI) (h : Stable P ins T fc) :
    ∀ q ds, T q ds → (⟨q, ds.length⟩ : Pred) ∈ ext P.preds ins := by
  intro q ds hT
  rw [mem_ext]
  by_cases hin : (⟨q, ds.length⟩ : Pred) ∈ ins
  · exact Or.inr hin
  · left
    obtain ⟨r, hr, a, hh, hpa, σ, hv, _⟩ := (stable_supported P ins T fc h).2 q ds hT hin
    refine mem_program_preds.mpr ⟨r, hr, mem_rule_preds.mpr (Or.inl ?_)⟩
    rcases hh with hh | hh <;> rw [hh] <;> simp [Head.predicate, Asp.Atom.predicate, hpa, valsList_length hv]

/-- "Cannot produce the public part": for an interpretation that satisfies the private definitions, being a
    stable model depends on its non-private extents alone. -/
theorem stable_iff_some_stable_same_public (P : Program) (ins priv : List Pred) (htight : isTight P = true)
    (hins : ∀ q ∈ ins, q ∉ P.headPreds) (hrec : hasPrivateRecursion P priv = false)
    (hprivsub : ∀ q ∈ priv, q ∈ P.preds ∧ q ∉ ins)
    (Γ : Theory) (hΓ : completion (tauStar P) ins = some Γ) (T : PredI) (fc : FcI) (ρ : Asg)
    (hpriv : ∀ F ∈ Γ, (∃ q ∈ priv, headPredicate F = some q) → sat ⟨T, fc⟩ F ρ) :
    Stable P ins T fc ↔
      ∃ T' : PredI, Stable P ins T' fc ∧ ∀ (q : String) (ds : List Dom), (⟨q, ds.length⟩ : Pred) ∉ priv → (T' q ds ↔ T q ds) := by
  constructor
  · intro h; exact ⟨T, h, fun _ _ _ => Iff.rfl⟩
  · rintro ⟨T', hst, hag⟩
    obtain ⟨Γ', h1, h2⟩ := completion_tight P ins htight rfl hins
    cases hΓ.symm.trans h1
    have hdef : ∀ X : PredI, (∀ F ∈ Γ, (∃ q ∈ priv, headPredicate F = some q) → sat ⟨X, fc⟩ F ρ) →
        ∀ q ∈ priv, DefHolds P X fc q.symbol q.arity := by
      intro X hX q hq
      obtain ⟨F, hF, hhead, hsem⟩ := completion_has_def P ins Γ hΓ q (hprivsub q hq).1 (hprivsub q hq).2
      exact (hsem X fc ρ).mp (hX F hF ⟨q, hq, hhead⟩)
    have hT'Γ := (h2 T' fc ρ (stable_sig P ins T' fc hst)).mpr hst
    have heq := private_extents_unique P priv hrec T' T fc hag (hdef T' fun F hF _ => hT'Γ F hF) (hdef T hpriv)
    rw [← show T' = T from funext fun q => funext fun ds => propext (heq q ds)]
    exact hst

theorem rightSide_private_defs (t : ExternalTask) (fuel : Nat) (ΓR : Theory) (hsimp : t.simplify = false)
    (hR : theoryTranslate t [] fuel t.program = .ok ΓR) (J : Interp) (ρ : Asg)
    (hpriv : ∀ a ∈ rightSide t ΓR, a.role = .assumption → sat J a.formula ρ) :
    ∃ Γ, completion (tauStar t.program) t.userGuide.inputs = some Γ ∧
    ∀ F ∈ Γ, (∃ q ∈ t.progPrivate, headPredicate F = some q) →
      sat ⟨restrictTo (ext t.program.preds t.userGuide.inputs)
        (renamedInterp t.clashMap J.pred), J.fc⟩ F ρ := by
  -- without simplification the translated theory is the completion itself, followed by the empty
  -- definitions of the output predicates the program does not mention
  obtain ⟨Γ, hΓ, hΓR, _⟩ := theoryTranslate_inv t [] fuel t.program ΓR hR
  rw [List.map_id'' replacePlaceholders_nil] at hΓ
  refine ⟨Γ, hΓ, ?_⟩
  intro F hF ⟨q, hq, hhead⟩
  have hFR : F ∈ ΓR := by rw [hΓR hsimp]; exact List.mem_append.mpr (Or.inl hF)
  have hqpub : q ∉ t.userGuide.publicPreds := by
    simpa using (List.mem_filter.mp hq).2
  obtain ⟨a, ha, hfa, hrole⟩ := controlTranslate_assumption t.userGuide.publicPreds ΓR F hFR q hhead hqpub
  have := hpriv { a with formula := a.formula.renamePreds t.clashMap }
    (List.mem_map.mpr ⟨a, ha, rfl⟩) hrole
  simp only [hfa] at this
  rw [sat_restrict J.fc _ _ F ρ fun q' hq' => mem_ext.mpr (Or.inl (completion_preds t.program _ Γ hΓ F hF q' hq'))]
  exact (sat_renamePreds _ J.pred J.fc F ρ).mp this

end Anthem
