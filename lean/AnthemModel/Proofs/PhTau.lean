/-
  Placeholders, part 2: substituting precomputed terms for symbolic constants in a mini-gringo
  program commutes with tau*: `tauStar (P.substSym ν) = (tauStar P).map (substSym (preToGTerm ∘ ν))`.
-/
import AnthemModel.Proofs.PhSubst
import AnthemModel.Proofs.TauStarRules
namespace Anthem
open Asp

def Asp.Term.substSym (ν : String → Pre) : Term → Term
  | .pre (.sym s) => .pre (ν s)
  | .pre p => .pre p
  | .var x => .var x
  | .neg t => .neg (t.substSym ν)
  | .bin op l r => .bin op (l.substSym ν) (r.substSym ν)

def Asp.Atom.substSym (ν : String → Pre) (a : Asp.Atom) : Asp.Atom := ⟨a.pred, a.args.map (Term.substSym ν)⟩

def Asp.BodyAtom.substSym (ν : String → Pre) : BodyAtom → BodyAtom
  | .lit l => .lit ⟨l.sign, l.atom.substSym ν⟩
  | .cmp rel l r => .cmp rel (l.substSym ν) (r.substSym ν)

def Asp.Head.substSym (ν : String → Pre) : Head → Head
  | .basic a => .basic (a.substSym ν)
  | .choice a => .choice (a.substSym ν)
  | .falsity => .falsity

def Asp.Rule.substSym (ν : String → Pre) (r : Rule) : Rule := ⟨r.head.substSym ν, r.body.map (BodyAtom.substSym ν)⟩

def Asp.Program.substSym (ν : String → Pre) (p : Program) : Program := p.map (Rule.substSym ν)

theorem Term.vars_substSym (ν : String → Pre) : ∀ t : Term, (t.substSym ν).vars = t.vars := by
  intro t
  induction t with
  | pre p => cases p <;> rfl
  | var x => rfl
  | neg t ih => exact ih
  | bin op l r ihl ihr => simp only [Term.substSym, Term.vars, ihl, ihr]

theorem Atom.vars_substSym (ν : String → Pre) (a : Asp.Atom) : (a.substSym ν).vars = a.vars := by
  simp only [Asp.Atom.substSym, Asp.Atom.vars]
  exact foldl_map_congr _ _ _ (fun acc t => by rw [Term.vars_substSym]) a.args []

theorem BodyAtom.vars_substSym (ν : String → Pre) (f : BodyAtom) : (f.substSym ν).vars = f.vars := by
  cases f with
  | lit l => exact Atom.vars_substSym ν l.atom
  | cmp rel l r => simp only [BodyAtom.substSym, BodyAtom.vars, Term.vars_substSym]

theorem bodyVars_substSym (ν : String → Pre) (b : List BodyAtom) : bodyVars (b.map (BodyAtom.substSym ν)) = bodyVars b := by
  unfold bodyVars
  exact foldl_map_congr _ _ _ (fun acc f => by rw [BodyAtom.vars_substSym]) b []

theorem Head.vars_substSym (ν : String → Pre) (h : Head) : (h.substSym ν).vars = h.vars := by
  cases h with
  | basic a => exact Atom.vars_substSym ν a
  | choice a => exact Atom.vars_substSym ν a
  | falsity => rfl

theorem Head.arity_substSym (ν : String → Pre) (h : Head) : (h.substSym ν).arity = h.arity := by
  cases h <;> simp [Asp.Head.substSym, Head.arity, Asp.Atom.substSym]

theorem Rule.vars_substSym (ν : String → Pre) (r : Rule) : (r.substSym ν).vars = r.vars := by
  simp only [Asp.Rule.substSym, Rule.vars, Head.vars_substSym, bodyVars_substSym]

theorem Program.vars_substSym (ν : String → Pre) (p : Program) : (p.substSym ν).vars = p.vars := by
  unfold Asp.Program.substSym Program.vars
  exact foldl_map_congr _ _ _ (fun acc r => by rw [Rule.vars_substSym]) p []

theorem maxHeadArity_substSym (ν : String → Pre) (p : Program) : maxHeadArity (p.substSym ν) = maxHeadArity p := by
  unfold maxHeadArity Asp.Program.substSym
  exact foldl_map_congr _ _ _ (fun m r => by simp only [Asp.Rule.substSym, Head.arity_substSym]) p 0

theorem maxTakenGlobal_substSym (ν : String → Pre) (p : Program) : maxTakenGlobal (p.substSym ν) = maxTakenGlobal p := by
  unfold maxTakenGlobal
  rw [Program.vars_substSym]

theorem chooseFreshGlobals_substSym (ν : String → Pre) (p : Program) :
    chooseFreshGlobals (p.substSym ν) = chooseFreshGlobals p := by
  unfold chooseFreshGlobals
  rw [maxHeadArity_substSym, maxTakenGlobal_substSym, Program.vars_substSym]

theorem globalsPanic_substSym (ν : String → Pre) (p : Program) : globalsPanic (p.substSym ν) = globalsPanic p := rfl

def thetaOf (ν : String → Pre) (s : String) : GTerm := preToGTerm (ν s)

theorem thetaOf_closed (ν : String → Pre) : ClosedSubst (thetaOf ν) := by
  intro s
  unfold thetaOf
  cases ν s <;> exact ⟨rfl, rfl⟩

theorem Var.toTerm_substSym (θ : String → GTerm) (z : Var) : z.toTerm.substSym θ = z.toTerm := by
  obtain ⟨n, srt⟩ := z
  cases srt <;> rfl

@[simp] theorem GTerm.substSym_int (θ : String → GTerm) (t : ITerm) : (GTerm.int t).substSym θ = .int t := rfl
@[simp] theorem GTerm.substSym_var (θ : String → GTerm) (x : String) : (GTerm.var x).substSym θ = .var x := rfl

theorem cmp1_substSym (θ : String → GTerm) (l : GTerm) (r : Rel) (t : GTerm) :
    (cmp1 l r t).substSym θ = cmp1 (l.substSym θ) r (t.substSym θ) := rfl

theorem totalFunction_substSym (θ : String → GTerm) (vi vj : Formula) (op : IOp) (i j : String) (z : Var) :
    (totalFunction vi vj op i j z).substSym θ = totalFunction (vi.substSym θ) (vj.substSym θ) op i j z := by
  simp only [totalFunction, Formula.substSym, cmp1, AtomicF.substSym, Var.toTerm_substSym, List.map_cons, List.map_nil,
    GTerm.substSym_int]

theorem partialFunction_substSym {θ : String → GTerm} (hθ : ClosedSubst θ) (vi vj : Formula) (useQ : Bool) (i j : String)
    (z : Var) :
    (partialFunction vi vj useQ i j z).substSym θ = partialFunction (vi.substSym θ) (vj.substSym θ) useQ i j z := by
  simp only [partialFunction, Formula.vars_substSym hθ]
  simp only [Formula.substSym, cmp1, AtomicF.substSym, Var.toTerm_substSym, List.map_cons, List.map_nil,
    GTerm.substSym_int]

theorem intervalFormula_substSym (θ : String → GTerm) (vi vj : Formula) (i j k : String) (z : Var) :
    (intervalFormula vi vj i j k z).substSym θ = intervalFormula (vi.substSym θ) (vj.substSym θ) i j k z := by
  simp only [intervalFormula, Formula.substSym, cmp1, AtomicF.substSym, Var.toTerm_substSym, List.map_cons, List.map_nil,
    GTerm.substSym_int]

theorem preToGTerm_substSym (ν : String → Pre) (p : Pre) :
    (preToGTerm p).substSym (thetaOf ν) = preToGTerm (match p with | .sym s => ν s | q => q) := by
  cases p <;> rfl

theorem val_substSym (ν : String → Pre) : ∀ (t : Term) (z : Var),
    val (t.substSym ν) z = (val t z).substSym (thetaOf ν) := by
  intro t
  induction t with
  | pre p =>
    intro z
    cases p <;> simp only [Term.substSym, val, cmp1_substSym, Var.toTerm_substSym] <;> rfl
  | var x => intro z; simp only [Term.substSym, val, cmp1_substSym, Var.toTerm_substSym]; rfl
  | neg t ih =>
    intro z
    simp only [Term.substSym, val, Term.vars_substSym, ih, totalFunction_substSym]
    rfl
  | bin op l r ihl ihr =>
    intro z
    simp only [Term.substSym, val, Term.vars_substSym, ihl, ihr]
    cases op <;> simp only [totalFunction_substSym, partialFunction_substSym (thetaOf_closed ν), intervalFormula_substSym]

theorem conjoin_substSym (θ : String → GTerm) (fs : List Formula) :
    (conjoin fs).substSym θ = conjoin (fs.map (Formula.substSym θ)) := by
  cases fs with
  | nil => rfl
  | cons f fs =>
    simp only [conjoin, List.map_cons]
    generalize f = acc
    induction fs generalizing acc with
    | nil => rfl
    | cons g gs ih => simp only [List.foldl_cons, List.map_cons, ih]; rfl

theorem signed_substSym (θ : String → GTerm) (s : Sign) (a : Formula) : (signed s a).substSym θ = signed s (a.substSym θ) := by
  cases s <;> rfl

theorem map_zip_val (ν : String → Pre) (args : List Term) (zs : List String) :
    ((args.map (Term.substSym ν)).zip zs).map (fun (p : Term × String) => val p.1 ⟨p.2, .general⟩) =
      ((args.zip zs).map (fun (p : Term × String) => val p.1 ⟨p.2, .general⟩)).map (Formula.substSym (thetaOf ν)) := by
  induction args generalizing zs with
  | nil => rfl
  | cons t ts ih =>
    cases zs with
    | nil => rfl
    | cons z zs => simp only [List.map_cons, List.zip_cons_cons, val_substSym, ih]

theorem atomVars_substSym (θ : String → GTerm) (p : String) (zs : List String) :
    (Formula.atomic (.atom ⟨p, zs.map GTerm.var⟩)).substSym θ = .atomic (.atom ⟨p, zs.map GTerm.var⟩) := by
  simp only [Formula.substSym, AtomicF.substSym, List.map_map]
  congr 3

theorem atomVarsA_substSym (θ : String → GTerm) (p : String) (zs : List String) :
    AtomicF.substSym θ (.atom ⟨p, zs.map GTerm.var⟩) = .atom ⟨p, zs.map GTerm.var⟩ := by
  simp only [AtomicF.substSym, List.map_map]
  congr 2

theorem tauB_substSym (ν : String → Pre) (f : BodyAtom) : tauB (f.substSym ν) = (tauB f).substSym (thetaOf ν) := by
  cases f with
  | lit l =>
    obtain ⟨s, a⟩ := l
    simp only [BodyAtom.substSym, tauB, BodyAtom.vars, Atom.vars_substSym]
    simp only [Asp.Atom.substSym, List.length_map]
    by_cases hpos : a.args.length > 0
    · simp only [hpos, if_true, Formula.substSym, conjoin_substSym, signed_substSym, atomVarsA_substSym, map_zip_val]
    · simp only [hpos, if_false, signed_substSym]
      rfl
  | cmp rel l r =>
    simp only [BodyAtom.substSym, tauB, BodyAtom.vars, Term.vars_substSym, val_substSym]
    rfl

theorem tauBody_substSym (ν : String → Pre) (b : List BodyAtom) :
    tauBody (b.map (BodyAtom.substSym ν)) = (tauBody b).substSym (thetaOf ν) := by
  simp only [tauBody, conjoin_substSym, List.map_map]
  congr 1
  exact List.map_congr_left fun f _ => tauB_substSym ν f

theorem headRuleFormula_substSym (ν : String → Pre) (ch : Bool) (a : Asp.Atom) (r : Rule) (globals : List String) :
    headRuleFormula ch (a.substSym ν) (r.substSym ν) globals =
      (headRuleFormula ch a r globals).substSym (thetaOf ν) := by
  unfold headRuleFormula
  simp only [Rule.vars_substSym]
  simp only [Asp.Atom.substSym, Asp.Rule.substSym, List.length_map, tauBody_substSym]
  by_cases hpos : a.args.length > 0
  · cases ch <;>
      simp only [hpos, Formula.substSym, conjoin_substSym, atomVarsA_substSym, map_zip_val, if_true, Bool.false_eq_true, if_false]
  · simp only [hpos, if_false]
    refine Eq.trans ?_ (quantify_substSym (thetaOf ν) _ .all (sortedGeneral r.vars)).symm
    cases ch <;> rfl

theorem tauStarRule_substSym (ν : String → Pre) (r : Rule) (globals : List String) :
    tauStarRule (r.substSym ν) globals = (tauStarRule r globals).substSym (thetaOf ν) := by
  cases hh : r.head with
  | falsity =>
    have hh' : (r.substSym ν).head = .falsity := by rw [Asp.Rule.substSym, hh]; rfl
    unfold tauStarRule
    simp only [hh, hh', Rule.vars_substSym]
    simp only [Asp.Rule.substSym, tauBody_substSym]
    exact (quantify_substSym (thetaOf ν) (.bin .imp (tauBody r.body) .fls) .all (sortedGeneral r.vars)).symm
  | basic a =>
    rw [tauStarRule_basic r a globals hh,
      tauStarRule_basic (r.substSym ν) (a.substSym ν) globals (by rw [Asp.Rule.substSym, hh]; rfl),
      headRuleFormula_substSym]
  | choice a =>
    rw [tauStarRule_choice r a globals hh,
      tauStarRule_choice (r.substSym ν) (a.substSym ν) globals (by rw [Asp.Rule.substSym, hh]; rfl),
      headRuleFormula_substSym]

theorem tauStar_substSym (ν : String → Pre) (p : Program) :
    tauStar (p.substSym ν) = (tauStar p).map (Formula.substSym (thetaOf ν)) := by
  simp only [tauStar, chooseFreshGlobals_substSym]
  simp only [Asp.Program.substSym, List.map_map]
  exact List.map_congr_left fun r _ => tauStarRule_substSym ν r _

end Anthem
