/-
  Definitions accepted by `CheckInternal::definition` are conservative: every interpretation can
  be changed on the defined predicate alone so that the definition becomes true.
-/
import AnthemModel.Model.External
import AnthemModel.Proofs.SubstFull
import AnthemModel.Proofs.RewritesClassic
import AnthemModel.Proofs.ExternalSem
namespace Anthem

theorem ite_eq_cases {α} {c : Prop} [Decidable c] {a b x : α} (h : (if c then a else b) = x) :
    c ∧ a = x ∨ ¬ c ∧ b = x := by
  by_cases hc : c
  · exact Or.inl ⟨hc, by rwa [if_pos hc] at h⟩
  · exact Or.inr ⟨hc, by rwa [if_neg hc] at h⟩

theorem mem_foldl_ins_nil {α} [DecidableEq α] {l : List α} {x : α} : x ∈ l.foldl ins [] ↔ x ∈ l :=
  (mem_foldl_ins l [] x).trans (or_iff_right List.not_mem_nil)

theorem sameSet_true {α} [DecidableEq α] {a b : List α} :
    sameSet a b = true ↔ (∀ x ∈ a, x ∈ b) ∧ ∀ x ∈ b, x ∈ a := by
  simp only [sameSet, Bool.and_eq_true, List.all_eq_true, decide_eq_true_eq]

theorem mapM_asVar_eq {args : List GTerm} {tv : List Var} (h : args.mapM GTerm.asVar? = some tv) :
    args = tv.map Var.toTerm := by
  induction args generalizing tv with
  | nil => cases h; rfl
  | cons t ts ih =>
    rw [List.mapM_cons] at h
    obtain ⟨v, hv, h⟩ := Option.bind_eq_some_iff.mp h
    obtain ⟨tv', htv', h⟩ := Option.bind_eq_some_iff.mp h
    cases h
    rw [List.map_cons, ← asVar?_some hv, ← ih htv']

/-- the interpretation of the defined predicate read off the right-hand side -/
def definedPred (I : Interp) (vars : List Var) (a : Atom) (rhs : Formula) : PredI :=
  fun q ds =>
    (q = a.pred ∧ ds.length = a.args.length ∧
      ∃ ρ : Asg, (∀ v ∈ vars, (ρ v).inSort v.sort) ∧ a.args.map (GTerm.eval I.fc ρ) = ds ∧ sat I rhs ρ) ∨
    (¬ (q = a.pred ∧ ds.length = a.args.length) ∧ I.pred q ds)

theorem definition_conservative_core (I : Interp) (vars : List Var) (a : Atom) (rhs : Formula)
    (tv : List Var) (htv : a.args.mapM GTerm.asVar? = some tv)
    (hcover : ∀ v, v ∈ vars ↔ v ∈ tv)
    (hfv : ∀ x ∈ rhs.fv, x ∈ vars) (hp : a.predicate ∉ rhs.preds) (ρ : Asg) :
    sat ⟨definedPred I vars a rhs, I.fc⟩ (.quant .all vars (.bin .iff (.atomic (.atom a)) rhs)) ρ := by
  simp only [sat]
  rw [bindAll_iff]
  intro τ hτ
  have hrhs : sat ⟨definedPred I vars a rhs, I.fc⟩ rhs τ ↔ sat I rhs τ := by
    refine sat_congr_preds I.fc _ _ rhs τ fun q hq ds hlen => ?_
    have hne : ¬ (q.symbol = a.pred ∧ ds.length = a.args.length) := by
      rintro ⟨h1, h2⟩
      apply hp
      have : q = a.predicate := by
        obtain ⟨qs, qa⟩ := q
        simp only [Atom.predicate, Pred.mk.injEq]
        exact ⟨h1, by simp only at hlen; omega⟩
      exact this ▸ hq
    simp only [definedPred]
    constructor
    · rintro (⟨h1, h2, _⟩ | ⟨_, h⟩)
      · exact absurd ⟨h1, h2⟩ hne
      · exact h
    · exact fun h => Or.inr ⟨hne, h⟩
  rw [hrhs]
  simp only [AtomicF.sat, definedPred]
  have hτs : ∀ v ∈ vars, (τ v).inSort v.sort := hτ.2
  constructor
  · rintro (⟨_, _, ρ', hws, he, hs⟩ | ⟨hn, _⟩)
    · -- the head arguments are the quantified variables, so `ρ'` and `τ` agree on them
      rw [mapM_asVar_eq htv, List.map_map, List.map_map] at he
      refine (sat_agree I rhs ρ' τ fun v hv => ?_).mp hs
      have hv' : v ∈ vars := hfv v (Formula.mem_fv.mpr hv)
      have hag := List.map_inj_left.mp he v ((hcover v).mp hv')
      simp only [Function.comp, toTerm_eval] at hag
      rwa [zval_of_inSort (hws v hv'), zval_of_inSort (hτs v hv')] at hag
    · exact absurd (by simp) hn
  · intro hs
    exact Or.inl ⟨by simp, by simp, τ, hτs, rfl, hs⟩

theorem definedPred_elsewhere (I : Interp) (vars : List Var) (a : Atom) (rhs : Formula)
    (q : String) (ds : List Dom) (h : ¬ (q = a.pred ∧ ds.length = a.args.length)) :
    definedPred I vars a rhs q ds ↔ I.pred q ds := by
  simp only [definedPred]
  constructor
  · rintro (⟨h1, h2, _⟩ | ⟨_, h'⟩)
    · exact absurd ⟨h1, h2⟩ h
    · exact h'
  · exact fun h' => Or.inr ⟨h, h'⟩

theorem foldl_ins_nodup {α} [DecidableEq α] (l : List α) : ∀ {init : List α}, init.Nodup →
    (l.foldl ins init).Nodup := by
  induction l with
  | nil => exact fun h => h
  | cons x l ih => exact fun h => ih (nodup_ins h)

theorem foldl_ins_length {α} [DecidableEq α] (l : List α) : ∀ (init : List α),
    (l.foldl ins init).length ≤ init.length + l.length ∧
    ((l.foldl ins init).length = init.length + l.length → l.Nodup ∧ ∀ x ∈ l, x ∉ init) := by
  induction l with
  | nil => exact fun init => ⟨Nat.le_refl _, fun _ => ⟨List.nodup_nil, fun _ h => nomatch h⟩⟩
  | cons x l ih =>
    intro init
    rw [List.foldl_cons, List.length_cons]
    by_cases hm : x ∈ init
    · rw [show ins init x = init from if_pos hm]
      exact ⟨Nat.le_succ_of_le (ih init).1, fun h => absurd (h ▸ (ih init).1) (Nat.not_succ_le_self _)⟩
    · rw [show ins init x = init ++ [x] from if_neg hm]
      obtain ⟨h1, h2⟩ := ih (init ++ [x])
      rw [List.length_append, List.length_singleton, Nat.add_right_comm] at h1 h2
      refine ⟨h1, fun h => ?_⟩
      obtain ⟨hnd, hni⟩ := h2 h
      refine ⟨List.nodup_cons.mpr ⟨fun hx => hni x hx (List.mem_append.mpr (Or.inr (List.mem_singleton.mpr rfl))), hnd⟩,
        fun y hy => ?_⟩
      rcases List.mem_cons.mp hy with rfl | hy'
      · exact hm
      · exact fun hyi => hni y hy' (List.mem_append.mpr (Or.inl hyi))

theorem head_args_nodup (vars tv : List Var)
    (hlen : ¬ (vars.foldl ins []).length < vars.length)
    (hsame : sameSet (vars.foldl ins []) (tv.foldl ins []) = true)
    (hcount : tv.length = vars.length) : tv.Nodup := by
  have l1 := (foldl_ins_nodup vars List.nodup_nil).length_le_of_subset fun x hx => (sameSet_true.mp hsame).1 x hx
  obtain ⟨l2, hnd⟩ := foldl_ins_length tv []
  rw [List.length_nil, Nat.zero_add] at l2 hnd
  exact (hnd (by omega)).1

end Anthem
