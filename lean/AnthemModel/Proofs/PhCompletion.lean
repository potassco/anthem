/-
  Placeholders, part 3: `completion` commutes with a closed substitution for symbolic constants:
  `completion (Γ.map σ) ins = (completion Γ ins).map (·.map σ)`.
-/
import AnthemModel.Proofs.PhSubst
import AnthemModel.Model.Completion
namespace Anthem

variable {θ : String → GTerm}

theorem GTerm.substSym_of_asVar {t : GTerm} (h : t.asVar? ≠ none) : t.substSym θ = t := by
  rcases t.sym_or_fixed with ⟨s, rfl⟩ | h'
  · exact absurd rfl h
  · exact h' θ

def VarArgs (a : Atom) : Prop := ∀ t ∈ a.args, t.asVar? ≠ none

theorem args_substSym_of_varArgs {a : Atom} (h : VarArgs a) : a.args.map (GTerm.substSym θ) = a.args :=
  (List.map_congr_left fun t ht => GTerm.substSym_of_asVar (h t ht)).trans (List.map_id _)

theorem atom_substSym_of_varArgs {a : Atom} (h : VarArgs a) :
    Formula.substSym θ (.atomic (.atom a)) = .atomic (.atom a) := by
  simp only [Formula.substSym, AtomicF.substSym, args_substSym_of_varArgs h]

theorem varArgs_of_check {a : Atom} (h : ((a.args.map GTerm.asVar?).contains none || !allUnique (a.args.map GTerm.asVar?)) = false) :
    VarArgs a := by
  intro t ht hnone
  simp only [Bool.or_eq_false_iff] at h
  have : (a.args.map GTerm.asVar?).contains none = true := by
    rw [List.contains_iff_mem]
    exact List.mem_map.mpr ⟨t, ht, hnone⟩
  rw [this] at h
  exact absurd h.1 (by simp)

def Component.mapF (σ : Formula → Formula) : Component → Component
  | .constraint f => .constraint (σ f)
  | .partialDef f a => .partialDef (σ f) a

def goSplit (formula f g : Formula) : Option Component :=
  match g with
  | .atomic .fls => some (.constraint formula)
  | .atomic (.atom a) =>
    let vs := a.args.map GTerm.asVar?
    if vs.contains none || !allUnique vs then none else some (.partialDef f a)
  | _ => none

theorem splitImplication_eq (formula : Formula) : splitImplication formula =
    match formula with
    | .bin .imp f g => goSplit formula f g
    | .bin .rimp g f => goSplit formula f g
    | _ => none := by
  unfold splitImplication goSplit
  cases formula with
  | bin c l r => cases c <;> rfl
  | atomic a => rfl
  | not f => rfl
  | quant q vs f => rfl

theorem goSplit_substSym (hθ : ClosedSubst θ) (formula f g : Formula) :
    goSplit (formula.substSym θ) (f.substSym θ) (g.substSym θ) =
      (goSplit formula f g).map (Component.mapF (Formula.substSym θ)) := by
  cases g with
  | atomic a =>
    cases a with
    | fls => rfl
    | tru => rfl
    | cmp t gs => rfl
    | atom a =>
      have hvs : (a.args.map (GTerm.substSym θ)).map GTerm.asVar? = a.args.map GTerm.asVar? := by
        rw [List.map_map]
        exact List.map_congr_left fun t _ => GTerm.asVar_substSym hθ t
      simp only [goSplit, Formula.substSym, AtomicF.substSym, hvs]
      by_cases hc : ((a.args.map GTerm.asVar?).contains none || !allUnique (a.args.map GTerm.asVar?)) = true
      · rw [if_pos hc, if_pos hc]; rfl
      · rw [if_neg hc, if_neg hc, args_substSym_of_varArgs (varArgs_of_check (Bool.eq_false_iff.mpr hc))]; rfl
  | not f' => rfl
  | bin c l r => rfl
  | quant q vs f' => rfl

theorem splitImplication_substSym (hθ : ClosedSubst θ) (F : Formula) :
    splitImplication (F.substSym θ) = (splitImplication F).map (Component.mapF (Formula.substSym θ)) := by
  rw [splitImplication_eq, splitImplication_eq]
  cases F with
  | bin c l r =>
    cases c with
    | imp => exact goSplit_substSym hθ (.bin .imp l r) l r
    | rimp => exact goSplit_substSym hθ (.bin .rimp l r) r l
    | and => rfl
    | or => rfl
    | iff => rfl
  | atomic a => rfl
  | not f => rfl
  | quant q vs f => rfl

theorem split_substSym (hθ : ClosedSubst θ) (F : Formula) :
    split (F.substSym θ) = (split F).map (Component.mapF (Formula.substSym θ)) := by
  unfold split
  rw [Formula.fv_substSym hθ]
  split
  · rfl
  · cases F with
    | quant q vs f =>
      cases q with
      | all =>
        -- the body is split; the recorded constraint is the body
        simp only [Formula.substSym]
        exact splitImplication_substSym hθ f
      | ex => exact splitImplication_substSym hθ (.quant .ex vs f)
    | atomic a => exact splitImplication_substSym hθ _
    | not f => exact splitImplication_substSym hθ _
    | bin c l r => exact splitImplication_substSym hθ _

def Definitions.mapF (σ : Formula → Formula) (d : Definitions) : Definitions := d.map fun e => (e.1, e.2.map σ)

theorem Definitions.any_mapF (σ : Formula → Formula) (d : Definitions) (p : Atom → Bool) :
    (d.mapF σ).any (fun e => p e.1) = d.any (fun e => p e.1) := by
  simp only [Definitions.mapF, List.any_map]
  rfl

theorem Definitions.push_mapF (σ : Formula → Formula) (d : Definitions) (a : Atom) (f : Formula) :
    (d.push a f).mapF σ = (d.mapF σ).push a (σ f) := by
  unfold Definitions.push
  rw [Definitions.any_mapF σ d (fun x => decide (x = a))]
  by_cases h : (d.any fun e => decide (e.1 = a)) = true
  · rw [if_pos h, if_pos h]
    simp only [Definitions.mapF, List.map_map]
    refine List.map_congr_left fun e _ => ?_
    by_cases he : e.1 = a <;> simp [he]
  · rw [if_neg h, if_neg h]; simp [Definitions.mapF]

def compStep (acc : Definitions × List Formula) (formula : Formula) : Option (Definitions × List Formula) :=
  match split formula with
  | none => none
  | some (.constraint c) => some (acc.1, acc.2 ++ [c])
  | some (.partialDef f a) => some (acc.1.push a f, acc.2)

theorem components_eq (t : Theory) : components t = t.foldlM compStep ([], []) := rfl

def accMap (σ : Formula → Formula) (acc : Definitions × List Formula) : Definitions × List Formula :=
  (acc.1.mapF σ, acc.2.map σ)

theorem compStep_substSym (hθ : ClosedSubst θ) (acc : Definitions × List Formula) (F : Formula) :
    compStep (accMap (Formula.substSym θ) acc) (F.substSym θ) =
      (compStep acc F).map (accMap (Formula.substSym θ)) := by
  unfold compStep
  rw [split_substSym hθ]
  cases split F with
  | none => rfl
  | some c =>
    cases c with
    | constraint c => simp [Component.mapF, accMap]
    | partialDef f a => simp [Component.mapF, accMap, Definitions.push_mapF]

theorem foldlM_compStep_substSym (hθ : ClosedSubst θ) : ∀ (t : Theory) (acc : Definitions × List Formula),
    (t.map (Formula.substSym θ)).foldlM compStep (accMap (Formula.substSym θ) acc) =
      (t.foldlM compStep acc).map (accMap (Formula.substSym θ)) := by
  intro t
  induction t with
  | nil => intro acc; rfl
  | cons F t ih =>
    intro acc
    simp only [List.map_cons, List.foldlM_cons, compStep_substSym hθ]
    cases compStep acc F with
    | none => rfl
    | some acc' => simp [ih]

theorem components_substSym (hθ : ClosedSubst θ) (t : Theory) :
    components (t.map (Formula.substSym θ)) = (components t).map (accMap (Formula.substSym θ)) := by
  rw [components_eq, components_eq]
  exact foldlM_compStep_substSym hθ t ([], [])

def KeysVar (d : Definitions) : Prop := ∀ e ∈ d, VarArgs e.1

theorem KeysVar.push {d : Definitions} (h : KeysVar d) {a : Atom} (ha : VarArgs a) (f : Formula) : KeysVar (d.push a f) := by
  intro e he
  unfold Definitions.push at he
  by_cases hany : (d.any fun e => decide (e.1 = a)) = true
  · rw [if_pos hany] at he
    obtain ⟨e0, he0, rfl⟩ := List.mem_map.mp he
    by_cases h0 : e0.1 = a
    · rw [if_pos h0]; exact h e0 he0
    · rw [if_neg h0]; exact h e0 he0
  · rw [if_neg hany] at he
    rcases List.mem_append.mp he with he | he
    · exact h e he
    · obtain rfl := List.mem_singleton.mp he; exact ha

theorem goSplit_partialDef_varArgs {formula f' g f : Formula} {a : Atom}
    (h : goSplit formula f' g = some (.partialDef f a)) : VarArgs a := by
  cases g with
  | atomic b =>
    cases b with
    | atom a' =>
      simp only [goSplit] at h
      by_cases hc : ((a'.args.map GTerm.asVar?).contains none || !allUnique (a'.args.map GTerm.asVar?)) = true
      · rw [if_pos hc] at h; cases h
      · rw [if_neg hc] at h
        injection h with h; injection h with _ h2
        exact h2 ▸ varArgs_of_check (Bool.eq_false_iff.mpr hc)
    | tru | fls | cmp _ _ => cases h
  | not _ | bin _ _ _ | quant _ _ _ => cases h

theorem split_partialDef_varArgs {F f : Formula} {a : Atom} (h : split F = some (.partialDef f a)) : VarArgs a := by
  have key : ∀ G, splitImplication G = some (.partialDef f a) → VarArgs a := by
    intro G hG
    rw [splitImplication_eq] at hG
    cases G with
    | bin c l r =>
      cases c with
      | imp | rimp => exact goSplit_partialDef_varArgs hG
      | and | or | iff => cases hG
    | atomic _ | not _ | quant _ _ _ => cases hG
  unfold split at h
  by_cases hfv : (!F.fv.isEmpty) = true
  · rw [if_pos hfv] at h; cases h
  · rw [if_neg hfv] at h
    cases F with
    | quant q vs f' => cases q <;> exact key _ h
    | atomic _ | not _ | bin _ _ _ => exact key _ h

theorem foldlM_compStep_keysVar : ∀ (t : Theory) (acc acc' : Definitions × List Formula), KeysVar acc.1 →
    t.foldlM compStep acc = some acc' → KeysVar acc'.1 := by
  intro t
  induction t with
  | nil => intro acc acc' h e; cases e; exact h
  | cons F t ih =>
    intro acc acc' h e
    obtain ⟨acc1, hs, e⟩ := Option.bind_eq_some_iff.mp e
    refine ih acc1 acc' ?_ e
    unfold compStep at hs
    cases hsp : split F with
    | none => rw [hsp] at hs; cases hs
    | some c =>
      rw [hsp] at hs
      cases c with
      | constraint c => cases hs; exact h
      | partialDef f a => cases hs; exact h.push (split_partialDef_varArgs hsp) f

theorem atomFromPred_varArgs (p : Pred) : VarArgs (atomFromPred p) := by
  intro t ht
  simp only [atomFromPred, List.mem_map] at ht
  obtain ⟨x, _, rfl⟩ := ht
  simp [GTerm.asVar?]

theorem KeysVar.addEmpty {d : Definitions} (h : KeysVar d) (p : Pred) : KeysVar (d.addEmpty p) := by
  intro e he
  unfold Definitions.addEmpty at he
  simp only at he
  by_cases hany : (d.any fun e => decide (e.1 = atomFromPred p)) = true
  · rw [if_pos hany] at he
    obtain ⟨e0, he0, rfl⟩ := List.mem_map.mp he
    by_cases h0 : e0.1 = atomFromPred p
    · rw [if_pos h0]; exact atomFromPred_varArgs p
    · rw [if_neg h0]; exact h e0 he0
  · rw [if_neg hany] at he
    rcases List.mem_append.mp he with he | he
    · exact h e he
    · obtain rfl := List.mem_singleton.mp he; exact atomFromPred_varArgs p

theorem KeysVar.foldl_addEmpty : ∀ (ps : List Pred) (d : Definitions), KeysVar d → KeysVar (ps.foldl Definitions.addEmpty d) := by
  intro ps
  induction ps with
  | nil => intro d h; exact h
  | cons p ps ih => intro d h; exact ih _ (h.addEmpty p)

theorem Definitions.addEmpty_mapF (σ : Formula → Formula) (d : Definitions) (p : Pred) :
    (d.addEmpty p).mapF σ = (d.mapF σ).addEmpty p := by
  unfold Definitions.addEmpty
  simp only
  rw [Definitions.any_mapF σ d (fun x => decide (x = atomFromPred p))]
  by_cases h : (d.any fun e => decide (e.1 = atomFromPred p)) = true
  · rw [if_pos h, if_pos h]
    simp only [Definitions.mapF, List.map_map]
    refine List.map_congr_left fun e _ => ?_
    by_cases he : e.1 = atomFromPred p <;> simp [he]
  · rw [if_neg h, if_neg h]; simp [Definitions.mapF]

theorem Definitions.foldl_addEmpty_mapF (σ : Formula → Formula) : ∀ (ps : List Pred) (d : Definitions),
    (ps.foldl Definitions.addEmpty d).mapF σ = ps.foldl Definitions.addEmpty (d.mapF σ) := by
  intro ps
  induction ps with
  | nil => intro d; rfl
  | cons p ps ih => intro d; simp only [List.foldl_cons, ih, Definitions.addEmpty_mapF]

theorem explicitPreds_mapF (σ : Formula → Formula) (d : Definitions) :
    (d.mapF σ).foldl (fun acc e => ins acc e.1.predicate) [] = d.foldl (fun acc e => ins acc e.1.predicate) [] := by
  unfold Definitions.mapF
  exact foldl_map_congr _ _ _ (fun acc e => rfl) d []

theorem hasHeadMismatches_mapF (σ : Formula → Formula) (d : Definitions) :
    hasHeadMismatches (d.mapF σ) = hasHeadMismatches d := by
  unfold hasHeadMismatches Definitions.mapF
  simp only [List.any_map]
  rfl

theorem Theory.preds_substSym (θ : String → GTerm) (t : Theory) : Theory.preds (t.map (Formula.substSym θ)) = Theory.preds t := by
  unfold Theory.preds
  exact foldl_map_congr _ _ _ (fun acc f => by rw [Formula.preds_substSym]) t []

theorem universalClosure_substSym (hθ : ClosedSubst θ) (f : Formula) :
    f.universalClosure.substSym θ = (f.substSym θ).universalClosure := by
  unfold Formula.universalClosure
  rw [quantify_substSym, Formula.fv_substSym hθ]

theorem disjoin_substSym (θ : String → GTerm) (fs : List Formula) :
    (disjoin fs).substSym θ = disjoin (fs.map (Formula.substSym θ)) := by
  cases fs with
  | nil => rfl
  | cons f fs =>
    simp only [disjoin, List.map_cons]
    generalize f = acc
    induction fs generalizing acc with
    | nil => rfl
    | cons g gs ih => simp only [List.foldl_cons, List.map_cons, ih]; rfl

theorem completeDefinition_substSym (hθ : ClosedSubst θ) (g : Atom) (hg : VarArgs g) (bodies : List Formula) :
    (completeDefinition g bodies).substSym θ = completeDefinition g (bodies.map (Formula.substSym θ)) := by
  unfold completeDefinition
  simp only [quantify_substSym, Formula.substSym, disjoin_substSym, List.map_map]
  have hatom : AtomicF.substSym θ (.atom g) = .atom g := by
    simp only [AtomicF.substSym, args_substSym_of_varArgs hg]
  rw [hatom]
  congr 3
  apply List.map_congr_left
  intro f _
  simp only [Function.comp, quantify_substSym, Formula.fv_substSym hθ]

theorem completion_substSym (hθ : ClosedSubst θ) (t : Theory) (inputs : List Pred) :
    completion (t.map (Formula.substSym θ)) inputs = (completion t inputs).map (List.map (Formula.substSym θ)) := by
  unfold completion
  rw [components_substSym hθ]
  cases hc : components t with
  | none => rfl
  | some acc =>
    obtain ⟨explicit, constraints⟩ := acc
    have hkeys : KeysVar ((List.filter (fun x => decide (x ∉ explicit.foldl (fun acc e => ins acc e.1.predicate) [])) t.preds).foldl
        Definitions.addEmpty explicit) := by
      apply KeysVar.foldl_addEmpty
      rw [components_eq] at hc
      exact foldlM_compStep_keysVar t ([], []) (explicit, constraints) (fun e he => by cases he) hc
    simp only [Option.map_some, accMap, explicitPreds_mapF, Theory.preds_substSym]
    rw [← Definitions.foldl_addEmpty_mapF, hasHeadMismatches_mapF]
    generalize List.foldl Definitions.addEmpty explicit _ = D at hkeys ⊢
    cases hasHeadMismatches D with
    | true => rfl
    | false =>
      simp only [Bool.false_eq_true, if_false, Option.map_some, List.map_append, List.map_map, Definitions.mapF,
        List.filter_map]
      congr 2
      · exact List.map_congr_left fun c _ => (universalClosure_substSym hθ c).symm
      · exact List.map_congr_left fun e he =>
          (completeDefinition_substSym hθ e.1 (hkeys e (List.mem_filter.mp he).1) e.2).symm

end Anthem
