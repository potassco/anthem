/-
  Pest's Pratt algorithm inverts a printer's parenthesisation: the argument, for any pair
  `expr`/`loop` that satisfies the equations of the algorithm. Proofs/PrattInv (mini-gringo terms) and
  Proofs/FolPrattInv (integer terms and formulas of the target language) instantiate it.
-/
namespace Anthem

/-- What the Pratt parsers of Model/AspParse and Model/FolParse share; the inversion argument uses
    nothing else. -/
structure Pratt (Tok T Op Pfx : Type) where
  prim : T → Tok
  op : Op → Tok
  pre : Pfx → Tok
  bin : Op → T → T → T
  un : Pfx → T → T
  bp : Op → Nat
  rbp : Op → Nat
  /-- the binding power with which the operand of a prefix operator is read: pest's `nud` calls
      `expr(prec - 1)`, so it is the prefix operators' power minus one (all of them sit on one level) -/
  prebp : Nat
  expr : Nat → Nat → List Tok → Option (T × List Tok)
  loop : Nat → Nat → T → List Tok → Option (T × List Tok)
  bp_le : ∀ o, bp o ≤ prebp
  expr_prim : ∀ f m t r, expr (f + 1) m (prim t :: r) = loop f m t r
  expr_pre : ∀ f m p r,
    expr (f + 1) m (pre p :: r) = (expr f prebp r).bind fun q => loop f m (un p q.1) q.2
  loop_nil : ∀ f m t, loop (f + 1) m t [] = some (t, [])
  loop_op : ∀ f m t o r, loop (f + 1) m t (op o :: r) =
    if m < bp o then (expr f (rbp o) r).bind fun q => loop f m (bin o t q.1) q.2 else some (t, op o :: r)

namespace Pratt
variable {Tok T Op Pfx : Type} (P : Pratt Tok T Op Pfx)

/-- what follows a printed term: nothing, or an infix operator of power at most `bound`, at
    which `loop` called with `m ≥ bound` stops -/
def RestOK (bound : Nat) (rest : List Tok) : Prop :=
  rest = [] ∨ ∃ o r, rest = P.op o :: r ∧ P.bp o ≤ bound

variable {P}

theorem RestOK.mono {a b : Nat} {rest : List Tok} (h : P.RestOK a rest) (hab : a ≤ b) : P.RestOK b rest :=
  h.imp id fun ⟨o, r, e, ho⟩ => ⟨o, r, e, Nat.le_trans ho hab⟩

theorem RestOK.prebp {a : Nat} {rest : List Tok} (h : P.RestOK a rest) : P.RestOK P.prebp rest :=
  h.imp id fun ⟨o, r, e, _⟩ => ⟨o, r, e, P.bp_le o⟩

theorem loop_stop {fuel m : Nat} {t : T} {rest : List Tok} (hf : 0 < fuel) (h : P.RestOK m rest) :
    P.loop fuel m t rest = some (t, rest) := by
  obtain ⟨f, rfl⟩ := Nat.exists_eq_add_one.mpr hf
  rcases h with rfl | ⟨o, r, rfl, ho⟩
  · exact P.loop_nil f m t
  · rw [P.loop_op, if_neg (Nat.not_lt.mpr ho)]

variable (P) in
/-- `top` bounds the caller's binding power, `bound` that of the operator that follows.
    Fuel bounds the depth of the calls and a token costs one call (`expr` on a primary or a prefix
    operator, `loop` on an infix operator); the factor 2 is that of the fuel `2 * toks.length + 2` which
    the model's parsers supply (`Reads.at_zero`). -/
def Reads (toks : List Tok) (t : T) (top bound : Nat) : Prop :=
  ∀ m rest fuel, m < top → P.RestOK bound rest → 2 * (toks ++ rest).length < fuel →
    ∃ fuel', 2 * rest.length < fuel' ∧ P.expr fuel m (toks ++ rest) = P.loop fuel' m t rest

variable (P) in
theorem reads_prim (t : T) (top bound : Nat) : P.Reads [P.prim t] t top bound := by
  intro m rest fuel _ _ hf
  obtain ⟨f, rfl⟩ := Nat.exists_eq_add_one.mpr (Nat.zero_lt_of_lt hf)
  simp only [List.cons_append, List.nil_append, List.length_cons] at hf
  exact ⟨f, by omega, P.expr_prim f m t rest⟩

variable {toks : List Tok} {t : T} {top bound : Nat}

/-- an operand the printer may have parenthesised -/
theorem Reads.arg (h : P.Reads toks t top bound) (c : Prop) [Decidable c] {top' bound' : Nat}
    (hc : ¬ c → top' ≤ top ∧ bound' ≤ bound) : P.Reads (if c then [P.prim t] else toks) t top' bound' := by
  by_cases hcc : c
  · rw [if_pos hcc]; exact P.reads_prim t top' bound'
  · rw [if_neg hcc]
    intro m rest fuel hm hr hf
    exact h m rest fuel (Nat.lt_of_lt_of_le hm (hc hcc).1) (hr.mono (hc hcc).2) hf

theorem Reads.whole (h : P.Reads toks t top bound) {m fuel : Nat} {rest : List Tok} (hm : m < top)
    (hr : P.RestOK bound rest) (hs : P.RestOK m rest) (hf : 2 * (toks ++ rest).length < fuel) :
    P.expr fuel m (toks ++ rest) = some (t, rest) := by
  obtain ⟨f', hf', e⟩ := h m rest fuel hm hr hf
  rw [e, loop_stop (by omega) hs]

/-- The operand is read at `prebp`, which no infix operator exceeds (`bp_le`), so it ends at the next
    infix operator whatever the caller's power: `top'`, `bound'` are free. -/
theorem Reads.pre (h : P.Reads toks t top bound) (p : Pfx) (ht : P.prebp < top) (hb : P.prebp ≤ bound)
    (top' bound' : Nat) : P.Reads (P.pre p :: toks) (P.un p t) top' bound' := by
  intro m rest fuel _ hr hf
  obtain ⟨f, rfl⟩ := Nat.exists_eq_add_one.mpr (Nat.zero_lt_of_lt hf)
  simp only [List.cons_append, List.length_cons] at hf ⊢
  refine ⟨f, by simp only [List.length_append] at hf; omega, ?_⟩
  rw [P.expr_pre, h.whole ht (hr.prebp.mono hb) hr.prebp (by omega)]
  rfl

/-- `h1`: the left operand is read at the caller's power, so it must be readable below `bp o`
    (equality is left association). `h2`: `o` may follow the left operand. `h3`: the right operand is
    read at `rbp o`. `h4`: what may follow the whole may follow the right operand, and `h5`: it stops
    the `loop` of the call at `rbp o`, so that the caller's `loop` takes it. -/
theorem Reads.bin {rtoks : List Tok} {r : T} {topr boundr : Nat} (hl : P.Reads toks t top bound)
    (hr : P.Reads rtoks r topr boundr) (o : Op) {bound' : Nat} (h1 : P.bp o ≤ top) (h2 : P.bp o ≤ bound)
    (h3 : P.rbp o < topr) (h4 : bound' ≤ boundr) (h5 : bound' ≤ P.rbp o) :
    P.Reads (toks ++ P.op o :: rtoks) (P.bin o t r) (P.bp o) bound' := by
  intro m rest fuel hm hrest hf
  rw [List.append_assoc, List.cons_append] at hf ⊢
  obtain ⟨f1, hf1, e1⟩ := hl m (P.op o :: (rtoks ++ rest)) fuel (Nat.lt_of_lt_of_le hm h1) (Or.inr ⟨o, _, rfl, h2⟩) hf
  obtain ⟨f, rfl⟩ := Nat.exists_eq_add_one.mpr (Nat.zero_lt_of_lt hf1)
  simp only [List.length_cons] at hf1
  refine ⟨f, by simp only [List.length_append] at hf1; omega, ?_⟩
  rw [e1, P.loop_op, if_pos hm, hr.whole h3 (hrest.mono h4) (hrest.mono h5) (by omega)]
  rfl

/-- power 0 and fuel `2 * toks.length + 2` are what `pratt`, `ipratt`, `fpratt` of the model start with;
    `Reads` asks for more than `2 * toks.length`, the last `loop` (on the empty rest) spending a unit -/
theorem Reads.at_zero (h : P.Reads toks t top bound) (h0 : 0 < top) :
    P.expr (2 * toks.length + 2) 0 toks = some (t, []) := by
  have := h.whole (rest := []) h0 (Or.inl rfl) (Or.inl rfl) (fuel := 2 * toks.length + 2) (by simp)
  rwa [List.append_nil] at this

end Pratt

end Anthem
