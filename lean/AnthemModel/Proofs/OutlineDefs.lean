/-
  The definitions of an accepted proof outline can be made true by re-interpreting only the
  predicates they define: for every interpretation there is one that agrees with it on the task's
  predicates and satisfies all accepted definitions of a direction.
-/
import AnthemModel.Proofs.OutlineSound
import AnthemModel.Proofs.DefinitionAccepted
namespace Anthem.Outline
open Asp

def DefsExt (base : List Pred) (defs : List SAnn) : Prop :=
  ∀ J : Interp, ∃ P' : PredI,
    (∀ q ds, (⟨q, ds.length⟩ : Pred) ∈ base → (P' q ds ↔ J.pred q ds)) ∧
    ∀ d ∈ defs, ∀ ρ, sat ⟨P', J.fc⟩ d.formula ρ

theorem DefsExt.nil (base : List Pred) : DefsExt base [] :=
  fun J => ⟨J.pred, fun _ _ _ => Iff.rfl, fun d hd => by cases hd⟩

theorem DefsExt.maybeSnoc {base taken : List Pred} {defs defs' : List SAnn} (hext : DefsExt base defs)
    (hsub : ∀ q ∈ base, q ∈ taken) (hpreds : ∀ d ∈ defs, ∀ q ∈ d.formula.preds, q ∈ taken)
    (a : SAnn) (p : Pred) (h : checkDefinition a.formula taken = .ok p) (hs : MaybeSnoc defs a defs') :
    DefsExt base defs' := by
  rcases hs with rfl | rfl
  · exact hext
  intro J
  obtain ⟨P', hagree, hdefs⟩ := hext J
  obtain ⟨_, _, _, _, _, _, hnt, _⟩ := definition_accepted_implies a.formula taken p h
  obtain ⟨P'', helse, hnew⟩ := definition_conservative a.formula taken p h ⟨P', J.fc⟩
  -- `P''` differs from `P'` on the new predicate only, which is not taken
  have hne : ∀ (q : String) (ds : List Dom), (⟨q, ds.length⟩ : Pred) ∈ taken → ¬ (q = p.symbol ∧ ds.length = p.arity) := by
    rintro q ds hin ⟨h1, h2⟩
    rw [h1, h2] at hin
    exact hnt hin
  refine ⟨P'', fun q ds hb => ?_, fun d hd ρ => ?_⟩
  · rw [helse q ds (hne q ds (hsub _ hb))]; exact hagree q ds hb
  · rcases List.mem_append.mp hd with hd | hd
    · rw [sat_congr_preds J.fc P'' P' d.formula ρ]
      · exact hdefs d hd ρ
      · intro q hq ds hlen
        exact helse q.symbol ds (hne q.symbol ds (by rw [hlen]; exact hpreds d hd q hq))
    · cases List.mem_singleton.mp hd
      exact hnew ρ

theorem definition_preds (f : Formula) (taken : List Pred) (p : Pred) (h : checkDefinition f taken = .ok p) :
    ∀ q ∈ f.preds, q ∈ ins taken p := by
  obtain ⟨vars, a, rhs, tv, rfl, hp, _, _, hrhs, _⟩ := definition_accepted_implies f taken p h
  intro q hq
  simp only [Formula.preds, AtomicF.preds, mem_ext, List.mem_singleton] at hq
  rcases hq with hq | hq
  · rw [hq, ← hp]; exact mem_ins.mpr (Or.inr rfl)
  · exact mem_ins.mpr (Or.inl (hrhs q hq))

structure DInv (base : List Pred) (po : ProofOutline) (taken : List Pred) : Prop where
  sub : ∀ q ∈ base, q ∈ taken
  fpreds : ∀ d ∈ po.forwardDefinitions, ∀ q ∈ d.formula.preds, q ∈ taken
  bpreds : ∀ d ∈ po.backwardDefinitions, ∀ q ∈ d.formula.preds, q ∈ taken
  fext : DefsExt base po.forwardDefinitions
  bext : DefsExt base po.backwardDefinitions

theorem proofOutlineFrom_defsExt (spec : Specification) (taken : List Pred) (m : PlaceholderMap) (po : ProofOutline)
    (h : proofOutlineFrom spec taken m = .ok po) :
    DefsExt taken po.forwardDefinitions ∧ DefsExt taken po.backwardDefinitions := by
  suffices step : ∀ po tk lem a po' tk' lem', DInv taken po tk →
      outlineStep m (.ok (po, tk, lem)) a = .ok (po', tk', lem') → DInv taken po' tk' by
    obtain ⟨_, _, hinv⟩ := proofOutlineFrom_inv (fun po tk _ => DInv taken po tk) m step spec taken po h
      ⟨fun _ hq => hq, fun _ hd => (nomatch hd), fun _ hd => (nomatch hd), DefsExt.nil _, DefsExt.nil _⟩
    exact ⟨hinv.fext, hinv.bext⟩
  intro po tk lem a po' tk' lem' hinv hs
  rcases outlineStep_cases m po tk lem a with ⟨e, he⟩ | ⟨_, _, _, _, _, hok, hf, hb, _, _⟩ |
      ⟨p, _, _, hdef, _, hok, _, _, hf, hb⟩
  · rw [he] at hs; cases hs
  · rw [hok] at hs; cases hs
    exact ⟨hinv.sub, hf ▸ hinv.fpreds, hb ▸ hinv.bpreds, hf ▸ hinv.fext, hb ▸ hinv.bext⟩
  · rw [hok] at hs; cases hs
    have mono : ∀ {defs : List SAnn}, (∀ d ∈ defs, ∀ q ∈ d.formula.preds, q ∈ tk) →
        ∀ d ∈ defs, ∀ q ∈ d.formula.preds, q ∈ ins tk p :=
      fun hd d hdm q hq => mem_ins.mpr (Or.inl (hd d hdm q hq))
    exact ⟨fun q hq => mem_ins.mpr (Or.inl (hinv.sub q hq)),
      hf.all (mono hinv.fpreds) (definition_preds _ tk p hdef), hb.all (mono hinv.bpreds) (definition_preds _ tk p hdef),
      hinv.fext.maybeSnoc hinv.sub hinv.fpreds _ p hdef hf, hinv.bext.maybeSnoc hinv.sub hinv.bpreds _ p hdef hb⟩

end Anthem.Outline
