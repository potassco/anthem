/-
  What simplification (the classic portfolio, fixpoint strategy) does to the outermost shape of the
  formulas of a completed theory - the shape by which `control_translate` decides whether a formula
  is a definition (with a head predicate) or a constraint:
  * a completed definition `forall V (p(V) <-> F)` / `p <-> F` keeps its head;
  * a formula without implications and equivalences stays one, so a simplified constraint of a tau*
    theory has no head.
-/
import AnthemModel.Model.Simplify
import AnthemModel.Model.External
import AnthemModel.Model.TauStar
import AnthemModel.Proofs.Termination
import AnthemModel.Proofs.RewritesClassic
namespace Anthem

def IffRoot (l : Formula) (F : Formula) : Prop :=
  (∃ r, F = .bin .iff l r) ∨ (∃ vs r, F = .quant .all vs (.bin .iff l r))

/-- what every rewrite of the portfolio does at such a root: an equivalence stays, a universal block
    over one stays or is dropped. The third clause (atoms are fixed) gives `applyPost f l = l` for the
    head atom `l`, the hypothesis `hl` of `applyPost_iffRoot`. -/
def KeepsIff (f : Formula → Formula) : Prop :=
  (∀ l r, f (.bin .iff l r) = .bin .iff l r) ∧
  (∀ vs l r, f (.quant .all vs (.bin .iff l r)) = .bin .iff l r ∨
    ∃ vs', f (.quant .all vs (.bin .iff l r)) = .quant .all vs' (.bin .iff l r)) ∧
  (∀ a, f (.atomic (.atom a)) = .atomic (.atom a))

theorem keepsIff_removeEmptyQuantifications : KeepsIff removeEmptyQuantifications := by
  refine ⟨fun _ _ => rfl, fun vs l r => ?_, fun _ => rfl⟩
  by_cases h : vs.isEmpty = true
  · exact .inl (if_pos h)
  · exact .inr ⟨vs, if_neg h⟩

theorem keepsIff_extendQuantifierScope : KeepsIff extendQuantifierScope := by
  refine ⟨fun l r => ?_, fun _ _ _ => Or.inr ⟨_, rfl⟩, fun _ => rfl⟩
  -- `<->` is neither `and` nor `or`; the match looks at both sides first and reduces only on constructors
  cases l <;> cases r <;> rfl

theorem keepsIff_classic : ∀ f ∈ Portfolio.classic.rewrites, KeepsIff f := by
  refine Portfolio.forall_rewrites ?_ ?_ ?_ ?_ ?_ ?_ ?_ ?_ keepsIff_removeEmptyQuantifications ?_ ?_ ?_ ?_
    keepsIff_extendQuantifierScope ?_ .classic
  -- the others do not match on an equivalence, a universally quantified equivalence or an atom
  all_goals exact ⟨fun _ _ => rfl, fun _ _ _ => Or.inr ⟨_, rfl⟩, fun _ => rfl⟩

theorem keepsIff_compose : ∀ (fs : List (Formula → Formula)), (∀ f ∈ fs, KeepsIff f) → KeepsIff (compose fs) := by
  intro fs h
  refine ⟨fun l r => ?_, fun vs l r => ?_, fun a => ?_⟩
  · exact compose_fixes fun f hf => (h f hf).1 l r
  · refine compose_keeps (I := fun F => F = .bin .iff l r ∨ ∃ vs', F = .quant .all vs' (.bin .iff l r))
      (fun f hf F hF => ?_) _ (.inr ⟨vs, rfl⟩)
    rcases hF with rfl | ⟨vs', rfl⟩
    · exact .inl ((h f hf).1 l r)
    · exact (h f hf).2.1 vs' l r
  · exact compose_fixes fun f hf => (h f hf).2.2 a

theorem applyPost_iffRoot {f : Formula → Formula} (hf : KeepsIff f) {l : Formula} (hl : applyPost f l = l)
    {F : Formula} (h : IffRoot l F) : IffRoot l (applyPost f F) := by
  have hiff : ∀ r, applyPost f (.bin .iff l r) = .bin .iff l (applyPost f r) :=
    fun r => by rw [applyPost, hl, hf.1]
  rcases h with ⟨r, rfl⟩ | ⟨vs, r, rfl⟩
  · exact .inl ⟨_, hiff r⟩
  · rw [applyPost, hiff]
    rcases hf.2.1 vs l (applyPost f r) with h1 | ⟨vs', h1⟩
    · exact .inl ⟨_, h1⟩
    · exact .inr ⟨_, _, h1⟩

theorem applyFixpointFuel_iffRoot (f : Formula → Formula) (hf : KeepsIff f) (a : Atom) :
    ∀ (n : Nat) (F : Formula), IffRoot (.atomic (.atom a)) F →
      IffRoot (.atomic (.atom a)) (applyFixpointFuel f n F).1 :=
  have hl : applyPost f (.atomic (.atom a)) = .atomic (.atom a) := hf.2.2 a
  fun n F h => applyFixpointFuel_keeps (I := IffRoot _) (fun _ => applyPost_iffRoot hf hl) n F (applyPost_iffRoot hf hl h)

theorem headPredicate_iffRoot (a : Atom) (F : Formula) (h : IffRoot (.atomic (.atom a)) F) :
    headPredicate F = some a.predicate := by
  rcases h with ⟨r, rfl⟩ | ⟨vs, r, rfl⟩ <;> rfl

theorem iffRoot_completeDefinition (A : Atom) (fs : List Formula) :
    IffRoot (.atomic (.atom A)) (completeDefinition A fs) := by
  unfold completeDefinition
  dsimp only
  generalize A.vars = vs
  cases vs with
  | nil => exact .inl ⟨_, rfl⟩
  | cons => exact .inr ⟨_, _, rfl⟩

theorem iffRoot_simplify (a : Atom) (fuel : Nat) (F : Formula) (h : IffRoot (.atomic (.atom a)) F) :
    IffRoot (.atomic (.atom a)) (simplifyWith .classic .fixpoint fuel F).1 :=
  applyFixpointFuel_iffRoot _ (keepsIff_compose _ keepsIff_classic) a fuel F h

theorem headPredicate_simplify_completeDefinition (A : Atom) (fs : List Formula) (fuel : Nat) :
    headPredicate (simplifyWith .classic .fixpoint fuel (completeDefinition A fs)).1 = some A.predicate :=
  headPredicate_iffRoot _ _ (iffRoot_simplify A fuel _ (iffRoot_completeDefinition A fs))

/-- no `->`, `<-`, `<->` (negation is allowed), so `headPredicate` finds nothing -/
def Formula.pos : Formula → Bool
  | .atomic _ => true
  | .not f => f.pos
  | .bin c l r => (c = .and || c = .or) && l.pos && r.pos
  | .quant _ _ f => f.pos

theorem pos_bin {c : Conn} {l r : Formula} :
    (Formula.bin c l r).pos = true ↔ (c = .and ∨ c = .or) ∧ l.pos = true ∧ r.pos = true := by
  simp [Formula.pos, and_assoc]

theorem pos_and {l r : Formula} (hl : l.pos = true) (hr : r.pos = true) : (Formula.bin .and l r).pos = true :=
  pos_bin.2 ⟨.inl rfl, hl, hr⟩

theorem headPredicate_pos : ∀ F : Formula, F.pos = true → headPredicate F = none := by
  intro F h
  induction F with
  | atomic _ | not _ _ => rfl
  | bin c l r _ _ => rcases (pos_bin.1 h).1 with rfl | rfl <;> rfl
  | quant q vs f ih =>
    cases q
    · exact ih h
    · rfl

theorem pos_quantify (F : Formula) (q : Quant) (vs : List Var) : (F.quantify q vs).pos = F.pos := by
  cases vs <;> rfl

theorem pos_conjoin (fs : List Formula) (h : ∀ g ∈ fs, g.pos = true) : (conjoin fs).pos = true := by
  cases fs with
  | nil => rfl
  | cons f fs =>
    exact foldl_keeps (I := (·.pos = true)) (fun g hg _ hb => pos_and hb (h g (List.mem_cons_of_mem _ hg))) f
      (h f List.mem_cons_self)

theorem pos_conjoinInvert (F : Formula) (h : F.pos = true) : ∀ g ∈ conjoinInvert F, g.pos = true := by
  induction F with
  | atomic _ | not _ _ | quant _ _ _ _ => exact fun g hg => List.mem_singleton.1 hg ▸ h
  | bin c l r ihl ihr =>
    cases c
    case and =>
      intro g hg
      rcases List.mem_append.1 hg with hg | hg
      · exact ihl (pos_bin.1 h).2.1 g hg
      · exact ihr (pos_bin.1 h).2.2 g hg
    all_goals exact fun g hg => List.mem_singleton.1 hg ▸ h

theorem pos_subst (f : Formula) (v : Var) (s : GTerm) : (f.subst v s).pos = f.pos :=
  substFuel_rel (R := fun a b => a.pos = b.pos) (fun _ => rfl) Eq.trans (fun _ _ _ => rfl) id
    (fun c _ _ _ _ h k => by rw [Formula.pos, h, k]; rfl) (fun q _ _ _ _ h _ => (pos_quantify _ q _).trans h) _ f v s

def KeepsPos (f : Formula → Formula) : Prop := ∀ F : Formula, F.pos = true → (f F).pos = true

theorem pos_evalCmpLoop : ∀ (gs : List Guard) (t : GTerm), ∀ g ∈ evalCmpLoop t gs, g.pos = true := by
  intro gs
  induction gs with
  | nil => exact fun _ _ hg => nomatch hg
  | cons x xs ih =>
    intro t g hg
    obtain ⟨e, he, h⟩ := evalCmpLoop_cons t x xs
    rw [he] at hg
    rcases List.mem_cons.1 hg with rfl | hg
    · rcases h with rfl | rfl | rfl <;> rfl
    · exact ih _ g hg

theorem keepsPos_evaluateComparisons : KeepsPos evaluateComparisons := by
  intro F h
  unfold evaluateComparisons
  split
  · exact pos_conjoin _ (pos_evalCmpLoop _ _)
  · exact h

theorem not_pos_imp {c : Conn} {l r : Formula} (hc : c = .imp ∨ c = .rimp) (h : (Formula.bin c l r).pos = true)
    {P : Prop} : P := by
  rcases hc with rfl | rfl <;> exact absurd (pos_bin.1 h).1 (by decide)

theorem keepsPos_applyNegationDefinitionInverse : KeepsPos applyNegationDefinitionInverse := by
  intro F h
  unfold applyNegationDefinitionInverse
  split
  · exact not_pos_imp (.inl rfl) h
  · exact h

theorem keepsPos_applyReverseImplicationDefinition : KeepsPos applyReverseImplicationDefinition := by
  intro F h
  unfold applyReverseImplicationDefinition
  split
  · exact not_pos_imp (.inr rfl) h
  · exact h

theorem keepsPos_applyEquivalenceDefinitionInverse : KeepsPos applyEquivalenceDefinitionInverse := by
  intro F h
  unfold applyEquivalenceDefinitionInverse
  split
  · exact not_pos_imp (.inl rfl) (pos_bin.1 h).2.1
  · exact h

theorem keepsPos_removeIdentities : KeepsPos removeIdentities := by
  intro F h
  unfold removeIdentities
  split
  · exact (pos_bin.1 h).2.1
  · exact (pos_bin.1 h).2.2
  · exact (pos_bin.1 h).2.1
  · exact (pos_bin.1 h).2.2
  · exact (pos_bin.1 h).2.2
  · exact h

theorem keepsPos_removeAnnihilations : KeepsPos removeAnnihilations := by
  intro F h
  unfold removeAnnihilations
  split
  any_goals rfl
  · exact ite_ind (Formula.pos · = true) (fun _ => rfl) fun _ => h
  · exact h

theorem keepsPos_removeIdempotences : KeepsPos removeIdempotences := by
  intro F h
  unfold removeIdempotences
  split
  · exact ite_ind (Formula.pos · = true) (fun _ => (pos_bin.1 h).2.1) fun _ => h
  · exact ite_ind (Formula.pos · = true) (fun _ => (pos_bin.1 h).2.1) fun _ => h
  · exact h

theorem keepsPos_removeOrphanedVariables : KeepsPos removeOrphanedVariables := by
  intro F h
  unfold removeOrphanedVariables
  split <;> exact h

theorem keepsPos_removeEmptyQuantifications : KeepsPos removeEmptyQuantifications := by
  intro F h
  unfold removeEmptyQuantifications
  split
  · exact ite_ind (Formula.pos · = true) (fun _ => h) fun _ => h
  · exact h

theorem keepsPos_joinNestedQuantifiers : KeepsPos joinNestedQuantifiers := by
  intro F h
  unfold joinNestedQuantifiers
  split
  · exact ite_ind (Formula.pos · = true) (fun _ => (pos_quantify _ _ _).trans h) fun _ => h
  · exact h

theorem keepsPos_removeDoubleNegation : KeepsPos removeDoubleNegation := by
  intro F h
  unfold removeDoubleNegation
  split <;> exact h

theorem pos_definedStep (b : Formula) (v : Var) : (definedStep b v).pos = b.pos := by
  unfold definedStep
  split
  · exact pos_subst _ _ _
  · rfl

theorem keepsPos_substituteDefinedVariables : KeepsPos substituteDefinedVariables := by
  intro F h
  rcases substituteDefinedVariables_cases F with e | ⟨vs, f, rfl, e⟩ <;> rw [e]
  · exact h
  · rw [pos_quantify]
    exact foldl_keeps (I := (·.pos = true)) (fun v _ b hb => (pos_definedStep b v).trans hb) f h

theorem pos_replacementApply (ivar ovar : Var) (F : Formula) : (replacementApply ivar ovar F).pos = F.pos := by
  unfold replacementApply
  split
  · exact pos_subst _ _ _
  · rfl

theorem keepsPos_restrictQuantifierDomain : KeepsPos restrictQuantifierDomain := by
  intro F h
  rcases restrictQuantifierDomain_cases F with e | ⟨q, outer, f, Z, I, rfl, e, _⟩ <;> rw [e]
  · exact h
  · exact (pos_replacementApply I Z _).trans h

theorem keepsPos_extendQuantifierScope : KeepsPos extendQuantifierScope := by
  intro F h
  -- the class does not see quantifiers
  rcases extendQuantifierScope_cases F with e | ⟨c, q, vs, f, g, _, _, ⟨rfl, e⟩ | ⟨rfl, e⟩⟩ <;> rw [e] <;> exact h

theorem keepsPos_simplifyTransitiveEquality : KeepsPos simplifyTransitiveEquality := by
  intro F h
  rcases simplifyTransitiveEquality_cases F with e | ⟨vars, l, r, rest, k, d, rfl, e, st⟩ <;> rw [e]
  · exact h
  · exact (pos_subst _ _ _).trans (pos_conjoin _ fun g hg => pos_conjoinInvert (.bin .and l r) h g (st.sublist.subset hg))

theorem keepsPos_classic : ∀ f ∈ Portfolio.classic.rewrites, KeepsPos f :=
  Portfolio.forall_rewrites keepsPos_evaluateComparisons keepsPos_applyNegationDefinitionInverse
    keepsPos_applyReverseImplicationDefinition keepsPos_applyEquivalenceDefinitionInverse keepsPos_removeIdentities
    keepsPos_removeAnnihilations keepsPos_removeIdempotences keepsPos_removeOrphanedVariables
    keepsPos_removeEmptyQuantifications keepsPos_joinNestedQuantifiers keepsPos_removeDoubleNegation
    keepsPos_substituteDefinedVariables keepsPos_restrictQuantifierDomain keepsPos_extendQuantifierScope
    keepsPos_simplifyTransitiveEquality .classic

theorem keepsPos_applyPost (f : Formula → Formula) (hf : KeepsPos f) : KeepsPos (applyPost f) := by
  intro F
  induction F with
  | atomic a => exact hf _
  | not g ih | quant q vs g ih => exact fun h => hf _ (ih h)
  | bin c l r ihl ihr =>
    intro h
    have h := pos_bin.1 h
    exact hf _ (pos_bin.2 ⟨h.1, ihl h.2.1, ihr h.2.2⟩)

theorem pos_cmp1 (l : GTerm) (r : Rel) (t : GTerm) : (cmp1 l r t).pos = true := rfl

theorem pos_val : ∀ (t : Asp.Term) (z : Var), (val t z).pos = true := by
  intro t
  induction t with
  | pre p => exact fun _ => rfl
  | var x => exact fun _ => rfl
  | neg arg ih => exact fun z => pos_and (pos_and rfl rfl) (ih _)
  | bin op l r ihl ihr =>
    intro z
    cases op
    case div | mod => exact pos_and (pos_and (pos_and rfl (pos_and (ihl _) (ihr _))) rfl) rfl
    case interval => exact pos_and (pos_and (pos_and (ihl _) (ihr _)) rfl) rfl
    all_goals exact pos_and (pos_and rfl (ihl _)) (ihr _)

theorem pos_signed (s : Asp.Sign) (a : Formula) (h : a.pos = true) : (signed s a).pos = true := by
  cases s <;> exact h

theorem pos_tauB (f : Asp.BodyAtom) : (tauB f).pos = true := by
  cases f with
  | lit l =>
    unfold tauB
    dsimp only
    split
    · show (Formula.bin .and _ (signed _ (.atomic _))).pos = true
      refine pos_and (pos_conjoin _ fun g hg => ?_) (pos_signed _ _ rfl)
      obtain ⟨⟨t, z⟩, _, rfl⟩ := List.mem_map.mp hg
      exact pos_val t _
    · exact pos_signed _ (.atomic _) rfl
  | cmp rel l r => exact pos_and (pos_and (pos_val _ _) (pos_val _ _)) rfl

theorem pos_tauBody (b : List Asp.BodyAtom) : (tauBody b).pos = true := by
  unfold tauBody
  apply pos_conjoin
  intro g hg
  obtain ⟨f, _, rfl⟩ := List.mem_map.mp hg
  exact pos_tauB f

theorem pos_applyPost_constraint {op : Formula → Formula} (hop : KeepsPos op)
    (hfls : op (.atomic .fls) = .atomic .fls)
    (himp : ∀ Y : Formula, Y.pos = true → (op (.bin .imp Y (.atomic .fls))).pos = true)
    (X : Formula) (hX : X.pos = true) (q : Quant) (vs : List Var) :
    (applyPost op ((Formula.bin .imp X .fls).quantify q vs)).pos = true := by
  have h : (applyPost op (.bin .imp X .fls)).pos = true := by
    rw [Formula.fls, applyPost, applyPost, hfls]
    exact himp _ (keepsPos_applyPost op hop X hX)
  cases vs with
  | nil => exact h
  | cons => exact hop _ h

theorem compose_imp_fls (fs : List (Formula → Formula)) (Y : Formula) :
    compose (evaluateComparisons :: applyNegationDefinitionInverse :: fs) (.bin .imp Y (.atomic .fls)) =
      compose fs (.not Y) := rfl

/-- the first pass turns `body -> #false` into a formula without implications, and it stays one -/
theorem pos_simplify_constraint (X : Formula) (hX : X.pos = true) (fuel : Nat) :
    (simplifyWith .classic .fixpoint fuel (Formula.bin .imp X .fls).universalClosure).1.pos = true := by
  have hop : KeepsPos (compose Portfolio.classic.rewrites) := compose_keeps keepsPos_classic
  -- `by decide`: no rewrite of the portfolio matches `#false`
  refine applyFixpointFuel_keeps (I := (·.pos = true)) (keepsPos_applyPost _ hop) fuel _
    (pos_applyPost_constraint hop (by decide) (fun Y hY => ?_) X hX _ _)
  -- rewriting step by step: Lean is slow to compute with the whole composition on an open formula
  rw [show Portfolio.classic.rewrites = evaluateComparisons :: applyNegationDefinitionInverse ::
    Portfolio.classic.rewrites.drop 2 from rfl, compose_imp_fls]
  exact compose_keeps (I := (·.pos = true)) (fun f hf => keepsPos_classic f (List.mem_of_mem_drop hf)) _ hY

end Anthem
