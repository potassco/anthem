/-
  The character-list printer of formulas, and the quantifier prefix with its variable list on
  printed text (the keyword half of the prefix lexers is in FolPrefixLex).
-/
import AnthemModel.Proofs.FolAtomRT
import AnthemModel.Proofs.FolPrefixLex
namespace Anthem.Fol
open Anthem.Asp (isWs skip stripPrefix isIdChar isNonzeroDigit SymName NoId StopsAt Solid StartsSolid
  takeWhile_append_stop noId_cons skip_cons_solid skip_of_startsSolid skip_space stripPrefix_head_ne
  stripPrefix_append stripPrefix_noId parenLL parenIf_toList parenLL_startsSolid)

def Conn.printL : Conn → List Char
  | .iff => [' ', '<', '-', '>', ' ']
  | .imp => [' ', '-', '>', ' ']
  | .rimp => [' ', '<', '-', ' ']
  | .and => [' ', 'a', 'n', 'd', ' ']
  | .or => [' ', 'o', 'r', ' ']

def startsWithVarL (l : List Char) : Bool :=
  match l.head? with
  | some c => c = '_' || c.isUpper
  | none => false

def quantBodyParen : Formula → Bool
  | .atomic a => startsWithVarL (AtomicF.printL a)
  | f => parenPrefix f

def Formula.printL : Formula → List Char
  | .atomic a => AtomicF.printL a
  | .not f => 'n' :: 'o' :: 't' :: ' ' :: parenLL (parenPrefix f) (Formula.printL f)
  | .quant q vs f => qwordL q ++ (varsL vs ++ ' ' :: parenLL (quantBodyParen f) (Formula.printL f))
  | .bin c l r =>
    parenLL (parenLeft c l r) (Formula.printL l) ++ (Conn.printL c ++ parenLL (parenRight c l r) (Formula.printL r))

theorem Var.print_toList (v : Var) : v.print.toList = Var.printL v := by
  obtain ⟨n, s⟩ := v
  cases s <;> simp [Var.print, Var.display, Var.printL, String.toList_append]

theorem vars_toList (vs : List Var) : (String.join (vs.map fun v => " " ++ v.print)).toList = varsL vs := by
  induction vs with
  | nil => rfl
  | cons v vs ih =>
    simp only [List.map_cons, String.join_cons, String.toList_append, ih, varsL, Var.print_toList]
    rfl

theorem Conn.print_toList (c : Conn) : c.print.toList = Conn.printL c := by
  cases c <;> decide +kernel

theorem startsWithVariable_eq (s : String) : startsWithVariable s = startsWithVarL s.toList := rfl

def qop (q : Quant) (vs : List Var) : String :=
  (match q with | .all => "forall" | .ex => "exists") ++ String.join (vs.map fun v => " " ++ v.print) ++ " "

theorem qop_toList (q : Quant) (vs : List Var) : (qop q vs).toList = qwordL q ++ (varsL vs ++ [' ']) := by
  have hq : (match q with | .all => "forall" | .ex => "exists").toList = qwordL q := by
    cases q <;> decide +kernel
  unfold qop
  rw [String.toList_append, String.toList_append, hq, vars_toList, List.append_assoc]
  rfl

theorem Formula.print_toList : ∀ f : Formula, f.print.toList = Formula.printL f := by
  intro f
  induction f with
  | atomic a => exact AtomicF.print_toList a
  | not f ih =>
    rw [Formula.print, String.toList_append, parenIf_toList, ih]
    rfl
  | quant q vs f ih =>
    -- the printer puts the body in parentheses in each of its cases as `parenIf` does
    have e : Formula.print (.quant q vs f) = qop q vs ++ parenIf (quantBodyParen f) f.print := by
      cases f with
      | atomic a =>
        rw [quantBodyParen, ← AtomicF.print_toList, ← startsWithVariable_eq]
        by_cases h : startsWithVariable a.print = true
        · simp only [Formula.print, qop, parenIf, h, if_true, String.append_assoc]
          cases q <;> rfl
        · simp only [Formula.print, qop, parenIf, h, Bool.false_eq_true, if_false, String.append_assoc]
          cases q <;> rfl
      | not g | quant q' vs' g | bin c l r => rfl
    rw [e, String.toList_append, qop_toList, parenIf_toList, ih, List.append_assoc, List.append_assoc]
    rfl
  | bin c l r ihl ihr =>
    rw [Formula.print, String.toList_append, String.toList_append, parenIf_toList, parenIf_toList,
      ihl, ihr, Conn.print_toList, List.append_assoc]
    rfl

theorem Var.printL_startsSolid (v : Var) (hv : Var.WF v) : StartsSolid (Var.printL v) := by
  obtain ⟨n, s⟩ := v
  have hs : UVName n.toList := hv
  cases s with
  | general => exact UVName.startsSolid hs
  | integer => exact (UVName.startsSolid hs).append _
  | symbol => exact (UVName.startsSolid hs).append _

theorem variablesL_printL : ∀ (vs : List Var), (∀ v ∈ vs, Var.WF v) → ∀ (B : List Char),
    lexVariable (skip (' ' :: B)) = none → ∀ (n : Nat), (varsL vs ++ ' ' :: B).length < n →
    variablesL n (varsL vs ++ ' ' :: B) = (vs, ' ' :: B) := by
  intro vs
  induction vs with
  | nil =>
    intro _ B hB n hn
    obtain ⟨n0, rfl⟩ := Nat.exists_eq_add_one.mpr (Nat.zero_lt_of_lt hn)
    simp only [varsL, List.nil_append, variablesL, hB]
  | cons v vs ih =>
    intro hwf B hB n hn
    obtain ⟨n0, rfl⟩ := Nat.exists_eq_add_one.mpr (Nat.zero_lt_of_lt hn)
    have hv := hwf v List.mem_cons_self
    have e : varsL (v :: vs) ++ ' ' :: B = ' ' :: (Var.printL v ++ (varsL vs ++ ' ' :: B)) :=
      congrArg (' ' :: ·) (List.append_assoc ..)
    rw [e] at hn ⊢
    have hnext : ∃ Y, varsL vs ++ ' ' :: B = ' ' :: Y := by
      cases vs with
      | nil => exact ⟨B, rfl⟩
      | cons v' vs' => exact ⟨_, rfl⟩
    obtain ⟨Y, hY⟩ := hnext
    have hsk : skip (' ' :: (Var.printL v ++ (varsL vs ++ ' ' :: B))) = Var.printL v ++ (varsL vs ++ ' ' :: B) := by
      rw [skip_space]; exact skip_of_startsSolid ((Var.printL_startsSolid v hv).append _)
    have hlex : lexVariable (Var.printL v ++ (varsL vs ++ ' ' :: B)) = some (v, varsL vs ++ ' ' :: B) := by
      rw [hY]; exact lexVariable_printL v hv Y
    rw [List.length_cons, List.length_append] at hn
    simp only [variablesL, hsk, hlex]
    rw [ih (fun u hu => hwf u (List.mem_cons_of_mem _ hu)) B hB n0
      (Nat.lt_of_le_of_lt (Nat.le_add_left ..) (Nat.lt_of_succ_lt_succ hn))]

theorem qword_strip (q : Quant) (X : List Char) :
    (match q with
      | .all => stripPrefix "forall".toList (qwordL q ++ X) = some X
      | .ex => stripPrefix "forall".toList (qwordL q ++ X) = none ∧ stripPrefix "exists".toList (qwordL q ++ X) = some X) := by
  cases q with
  | all =>
    show stripPrefix "forall".toList _ = _
    rw [prefix_keywords.1]
    exact stripPrefix_append _ X
  | ex =>
    show stripPrefix "forall".toList _ = _ ∧ stripPrefix "exists".toList _ = _
    rw [prefix_keywords.1, prefix_keywords.2.1]
    exact ⟨stripPrefix_head_ne _ _ (by decide), stripPrefix_append _ X⟩

theorem prefixL_quant (q : Quant) (vs : List Var) (hvs : vs ≠ []) (hwf : ∀ v ∈ vs, Var.WF v) (B : List Char)
    (hB : lexVariable (skip (' ' :: B)) = none) :
    prefixL (qwordL q ++ (varsL vs ++ ' ' :: B)) = some (.pquant q vs, ' ' :: B) := by
  cases vs with
  | nil => exact absurd rfl hvs
  | cons v vs' =>
    exact prefixL_pquant q (stripPrefix_append (qwordL q) _)
      (fun e => e ▸ stripPrefix_head_ne _ _ (by decide)) rfl
      (variablesL_printL (v :: vs') hwf B hB _ (Nat.lt_succ_self _))

end Anthem.Fol
