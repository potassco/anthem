/-
  Substitution lemma, part 1: terms, atomic formulas, and formulas in which no binder has to be
  renamed (no bound variable in scope occurs in the substituted term).
-/
import AnthemModel.Proofs.Agree
import AnthemModel.Model.Substitute
namespace Anthem

/-- The inputs on which `substitute` does not panic by construction. -/
def SortCompatible (v : Var) (s : GTerm) : Prop :=
  (v.sort = .integer → ∃ si, s = .int si) ∧ (v.sort = .symbol → ∃ ss, s = .symb ss)

theorem ITerm.vars_sort {t : ITerm} {w : Var} (h : w ∈ t.vars) : w.sort = .integer := by
  induction t with
  | num _ | fc _ => simp [ITerm.vars] at h
  | var x => simp [ITerm.vars] at h; subst h; rfl
  | neg t ih => exact ih (by simpa [ITerm.vars] using h)
  | bin op l r ihl ihr =>
    simp only [ITerm.vars, mem_ext] at h
    exact h.elim ihl ihr

theorem STerm.vars_sort {t : STerm} {w : Var} (h : w ∈ t.vars) : w.sort = .symbol := by
  cases t with
  | var x => exact List.eq_of_mem_singleton h ▸ rfl
  | sym _ | fc _ => exact nomatch h

theorem ITerm.eval_subst (fc : FcI) (ρ : Asg) (t : ITerm) (x : String) (s : ITerm) :
    (t.subst x s).eval fc ρ = t.eval fc (ρ.set ⟨x, .integer⟩ (.num (s.eval fc ρ))) := by
  induction t with
  | num _ | fc _ => rfl
  | var y =>
    show (if x = y then s else ITerm.var y).eval fc ρ = (ρ.set ⟨x, .integer⟩ _ ⟨y, .integer⟩).toInt
    by_cases h : x = y
    · subst h; rw [if_pos rfl, Asg.set_same]; rfl
    · have : (⟨y, .integer⟩ : Var) ≠ ⟨x, .integer⟩ := fun e => h (Var.mk.inj e).1.symm
      rw [if_neg h, Asg.set_other _ _ this]; rfl
  | neg t ih => exact congrArg (- ·) ih
  | bin op l r ihl ihr => show op.eval _ _ = op.eval _ _; rw [ihl, ihr]

theorem STerm.eval_subst (fc : FcI) (ρ : Asg) (t : STerm) (x : String) (s : STerm) :
    (t.subst x s).eval fc ρ = t.eval fc (ρ.set ⟨x, .symbol⟩ (.sym (s.eval fc ρ))) := by
  cases t with
  | sym _ | fc _ => rfl
  | var y =>
    show (if x = y then s else STerm.var y).eval fc ρ = (ρ.set ⟨x, .symbol⟩ _ ⟨y, .symbol⟩).toStr
    by_cases h : x = y
    · subst h; rw [if_pos rfl, Asg.set_same]; rfl
    · have : (⟨y, .symbol⟩ : Var) ≠ ⟨x, .symbol⟩ := fun e => h (Var.mk.inj e).1.symm
      rw [if_neg h, Asg.set_other _ _ this]; rfl

theorem GTerm.eval_set_of_sort_ne (fc : FcI) (ρ : Asg) {t : GTerm} {v : Var}
    (h : ∀ w ∈ t.vars, w.sort ≠ v.sort) (d : Dom) : t.eval fc (ρ.set v d) = t.eval fc ρ :=
  GTerm.eval_congr fc t fun w hw => Asg.set_other _ _ fun e => h w hw (e ▸ rfl)

theorem GTerm.eval_subst (fc : FcI) (ρ : Asg) (t : GTerm) (v : Var) (s : GTerm)
    (hc : SortCompatible v s) :
    (t.subst v s).eval fc ρ = t.eval fc (ρ.set v (s.eval fc ρ)) := by
  obtain ⟨vn, vs⟩ := v
  cases t with
  | inf | sup | fc _ => rfl
  | var y =>
    show (if vn = y ∧ vs = .general then s else GTerm.var y).eval fc ρ = ρ.set ⟨vn, vs⟩ _ ⟨y, .general⟩
    by_cases h : vn = y ∧ vs = .general
    · obtain ⟨rfl, rfl⟩ := h
      rw [if_pos ⟨rfl, rfl⟩, Asg.set_same]
    · have : (⟨y, .general⟩ : Var) ≠ ⟨vn, vs⟩ := fun e => h ⟨(Var.mk.inj e).1.symm, (Var.mk.inj e).2.symm⟩
      rw [if_neg h, Asg.set_other _ _ this]; rfl
  | int it =>
    by_cases h : vs = .integer
    · subst h
      obtain ⟨si, rfl⟩ := hc.1 rfl
      exact congrArg Dom.num (ITerm.eval_subst fc ρ it vn si)
    · show (if vs = .integer then _ else GTerm.int it).eval fc ρ = _
      rw [if_neg h]
      exact (GTerm.eval_set_of_sort_ne fc ρ (fun w hw => ITerm.vars_sort hw ▸ Ne.symm h) _).symm
  | symb st =>
    by_cases h : vs = .symbol
    · subst h
      obtain ⟨ss, rfl⟩ := hc.2 rfl
      exact congrArg Dom.sym (STerm.eval_subst fc ρ st vn ss)
    · show (if vs = .symbol then _ else GTerm.symb st).eval fc ρ = _
      rw [if_neg h]
      exact (GTerm.eval_set_of_sort_ne fc ρ (fun w hw => STerm.vars_sort hw ▸ Ne.symm h) _).symm

theorem cmpChain_subst (fc : FcI) (ρ : Asg) (v : Var) (s : GTerm) (hc : SortCompatible v s)
    (gs : List Guard) (d : Dom) :
    cmpChain fc ρ d (gs.map fun g => ⟨g.rel, g.term.subst v s⟩) ↔
      cmpChain fc (ρ.set v (s.eval fc ρ)) d gs := by
  induction gs generalizing d with
  | nil => simp [cmpChain]
  | cons g gs ih => simp only [List.map_cons, cmpChain, GTerm.eval_subst fc ρ _ v s hc, ih]

theorem AtomicF.sat_subst (P : PredI) (fc : FcI) (ρ : Asg) (a : AtomicF) (v : Var) (s : GTerm)
    (hc : SortCompatible v s) :
    (a.subst v s).sat P fc ρ ↔ a.sat P fc (ρ.set v (s.eval fc ρ)) := by
  cases a with
  | tru | fls => exact Iff.rfl
  | atom a =>
    simp only [AtomicF.subst, AtomicF.sat, List.map_map]
    have : a.args.map (GTerm.eval fc ρ ∘ fun t => t.subst v s) =
        a.args.map (GTerm.eval fc (ρ.set v (s.eval fc ρ))) :=
      List.map_congr_left fun t _ => GTerm.eval_subst fc ρ t v s hc
    rw [this]
  | cmp t gs =>
    simp only [AtomicF.subst, AtomicF.sat, GTerm.eval_subst fc ρ t v s hc]
    exact cmpChain_subst fc ρ v s hc gs _

/-- the renaming loop of `substitute` is the identity (`renameLoop_id`) -/
def NoRename (tv : List Var) (v : Var) : Formula → Prop
  | .atomic _ => True
  | .not f => NoRename tv v f
  | .bin _ l r => NoRename tv v l ∧ NoRename tv v r
  | .quant _ vs f => v ∈ vs ∨ ((∀ x ∈ vs, x ∉ tv) ∧ NoRename tv v f)

theorem renameLoop_id (sub : Formula → Var → GTerm → Formula) (tv : List Var) (vs : List Var)
    (h : ∀ x ∈ vs, x ∉ tv) (body : Formula) (taken : List Var) :
    renameLoop sub tv vs body taken = (body, vs) := by
  induction vs generalizing taken with
  | nil => rfl
  | cons x xs ih =>
    have hx : x ∉ tv := h x List.mem_cons_self
    simp only [renameLoop, hx, if_false]
    rw [ih (fun y hy => h y (List.mem_cons_of_mem _ hy))]

theorem bindQ_set_comm {q : Quant} {vs : List Var} {v : Var} (hv : v ∉ vs) (a : Dom) (P : Asg → Prop)
    (ρ : Asg) :
    bindQ q vs (fun ρ' => P (ρ'.set v a)) ρ ↔ bindQ q vs P (ρ.set v a) := by
  induction vs generalizing ρ with
  | nil => cases q <;> exact Iff.rfl
  | cons x xs ih =>
    have hx : v ≠ x := fun e => hv (e ▸ List.mem_cons_self)
    have step : ∀ d, bindQ q xs (fun ρ' => P (ρ'.set v a)) (ρ.set x d) ↔ bindQ q xs P ((ρ.set v a).set x d) :=
      fun d => Asg.set_comm ρ hx a d ▸ ih (fun h => hv (List.mem_cons_of_mem _ h)) (ρ.set x d)
    cases q
    · exact forall_congr' fun d => imp_congr_right fun _ => step d
    · exact exists_congr fun d => and_congr_right fun _ => step d

theorem bindQ_term_const {q : Quant} {vs : List Var} {s : GTerm} (fc : FcI) (hs : ∀ x ∈ vs, x ∉ s.vars)
    (P : Asg → Dom → Prop) (ρ : Asg) :
    bindQ q vs (fun ρ' => P ρ' (s.eval fc ρ')) ρ ↔ bindQ q vs (fun ρ' => P ρ' (s.eval fc ρ)) ρ :=
  bindQ_congr_upd (fun _ => Iff.rfl) fun τ hτ => by
    rw [GTerm.eval_congr fc s fun w hw => hτ.1 w fun hin => hs w hin hw]

theorem ht_subst_bin {M : HTI} {v : Var} {s : GTerm} (c : Conn) {l l' r r' : Formula} {ρ : Asg}
    (hl : ∀ w, ht M l' w ρ ↔ ht M l w (ρ.set v (s.eval M.fc ρ)))
    (hr : ∀ w, ht M r' w ρ ↔ ht M r w (ρ.set v (s.eval M.fc ρ))) (w : World) :
    ht M (.bin c l' r') w ρ ↔ ht M (.bin c l r) w (ρ.set v (s.eval M.fc ρ)) := by
  cases c <;> simp only [ht, hl, hr]

theorem ht_subst_bound (M : HTI) {v : Var} {vs : List Var} (hv : v ∈ vs) (q : Quant) (f : Formula)
    (w : World) (ρ : Asg) (d : Dom) :
    ht M (.quant q vs f) w ρ ↔ ht M (.quant q vs f) w (ρ.set v d) :=
  ht_agree M _ w _ _ fun x hx => (Asg.set_other _ _ fun (e : x = v) => hx.2 (e ▸ hv)).symm

theorem ht_subst_binders {M : HTI} {v : Var} {s : GTerm} {g g' : Formula} {vs : List Var}
    (h : ∀ w ρ, ht M g' w ρ ↔ ht M g w (ρ.set v (s.eval M.fc ρ)))
    (hv : v ∉ vs) (hs : ∀ x ∈ vs, x ∉ s.vars) (q : Quant) (w : World) (ρ : Asg) :
    ht M (g'.quantify q vs) w ρ ↔ ht M (.quant q vs g) w (ρ.set v (s.eval M.fc ρ)) := by
  have : bindQ q vs (ht M g' w) ρ ↔ bindQ q vs (ht M g w) (ρ.set v (s.eval M.fc ρ)) := by
    rw [bindQ_congr (h w) ρ, bindQ_term_const M.fc hs (fun ρ' d => ht M g w (ρ'.set v d)) ρ]
    exact bindQ_set_comm hv _ _ ρ
  rw [ht_quantify]
  cases q <;> exact this

theorem ht_substFuel_noRename (M : HTI) (v : Var) (s : GTerm) (hc : SortCompatible v s) :
    ∀ (n : Nat) (F : Formula), F.depth ≤ n → NoRename s.vars v F → ∀ (w : World) (ρ : Asg),
      ht M (F.substFuel n v s) w ρ ↔ ht M F w (ρ.set v (s.eval M.fc ρ)) := by
  intro n
  induction n with
  | zero =>
    intro F hd _ w ρ
    cases F with
    | atomic a => exact a.sat_subst _ _ ρ v s hc
    | not f | bin c l r | quant q vs f => exact absurd hd (Nat.not_succ_le_zero _)
  | succ n ih =>
    intro F hd hn w ρ
    cases F with
    | atomic a => exact a.sat_subst _ _ ρ v s hc
    | not f => exact not_congr (ih f (Nat.le_of_succ_le_succ hd) hn .there ρ)
    | bin c l r =>
      have hd' := Nat.le_of_succ_le_succ hd
      exact ht_subst_bin c (fun w => ih l (Nat.le_trans (Nat.le_max_left ..) hd') hn.1 w ρ)
        (fun w => ih r (Nat.le_trans (Nat.le_max_right ..) hd') hn.2 w ρ) w
    | quant q vs f =>
      by_cases hv : v ∈ vs
      · simp only [Formula.substFuel, if_pos hv]
        exact ht_subst_bound M hv q f w ρ _
      · have hn' := hn.resolve_left hv
        simp only [Formula.substFuel, if_neg hv, renameLoop_id (Formula.substFuel n) s.vars vs hn'.1]
        exact ht_subst_binders (fun w ρ => ih f (Nat.le_of_succ_le_succ hd) hn'.2 w ρ) hv hn'.1 q w ρ

end Anthem
