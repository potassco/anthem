/-
  HT-equivalence and classical equivalence are compatible with the connectives (`FormulaCongr`);
  a rewrite that keeps such a relation to its input keeps it when applied post-order, composed,
  or iterated (DESIGN.md 3.5, C07).
-/
import AnthemModel.Semantics.Fol
import AnthemModel.Model.Simplify
namespace Anthem

/-! ## what every rewrite of a portfolio keeps is kept by `compose` and by the fixpoint loop -/

theorem ite_ind {α} (P : α → Prop) {c : Prop} [Decidable c] {a b : α} (ha : c → P a) (hb : ¬c → P b) :
    P (if c then a else b) := by
  by_cases h : c
  · rw [if_pos h]; exact ha h
  · rw [if_neg h]; exact hb h

theorem forall_mem_cons_of {α} {P : α → Prop} {a : α} {l : List α} (ha : P a) (hl : ∀ x ∈ l, P x) :
    ∀ x ∈ a :: l, P x :=
  List.forall_mem_cons.2 ⟨ha, hl⟩

theorem Portfolio.forall_rewrites {P : (Formula → Formula) → Prop}
    (h₁ : P evaluateComparisons) (h₂ : P applyNegationDefinitionInverse)
    (h₃ : P applyReverseImplicationDefinition) (h₄ : P applyEquivalenceDefinitionInverse)
    (h₅ : P removeIdentities) (h₆ : P removeAnnihilations) (h₇ : P removeIdempotences)
    (h₈ : P removeOrphanedVariables) (h₉ : P removeEmptyQuantifications) (h₁₀ : P joinNestedQuantifiers)
    (h₁₁ : P removeDoubleNegation) (h₁₂ : P substituteDefinedVariables) (h₁₃ : P restrictQuantifierDomain)
    (h₁₄ : P extendQuantifierScope) (h₁₅ : P simplifyTransitiveEquality) :
    ∀ p : Portfolio, ∀ f ∈ p.rewrites, P f := by
  have all : ∀ f ∈ Anthem.intuitionistic ++ htPortfolio ++ Anthem.classic, P f :=
    forall_mem_cons_of h₁ <| forall_mem_cons_of h₂ <| forall_mem_cons_of h₃ <| forall_mem_cons_of h₄ <|
    forall_mem_cons_of h₅ <| forall_mem_cons_of h₆ <| forall_mem_cons_of h₇ <| forall_mem_cons_of h₈ <|
    forall_mem_cons_of h₉ <| forall_mem_cons_of h₁₀ <| forall_mem_cons_of h₁₁ <| forall_mem_cons_of h₁₂ <|
    forall_mem_cons_of h₁₃ <| forall_mem_cons_of h₁₄ <| forall_mem_cons_of h₁₅ fun _ h => nomatch h
  intro p f hf
  cases p
  · exact all f (List.mem_append_left _ (List.mem_append_left _ hf))
  · exact all f (List.mem_append_left _ hf)
  · exact all f hf

theorem foldl_keeps {α β} {I : β → Prop} {f : β → α → β} {l : List α}
    (hl : ∀ a ∈ l, ∀ b, I b → I (f b a)) : ∀ b, I b → I (l.foldl f b) := by
  induction l with
  | nil => exact fun _ h => h
  | cons a l ih =>
    exact fun b h => ih (fun x hx => hl x (List.mem_cons_of_mem _ hx)) (f b a) (hl a List.mem_cons_self b h)

theorem compose_keeps {I : Formula → Prop} {fs : List (Formula → Formula)} (h : ∀ f ∈ fs, ∀ F, I F → I (f F)) :
    ∀ F, I F → I (compose fs F) :=
  foldl_keeps h

theorem compose_fixes {fs : List (Formula → Formula)} {G : Formula} (h : ∀ f ∈ fs, f G = G) : compose fs G = G :=
  compose_keeps (I := (· = G)) (fun f hf _ hF => hF ▸ h f hf) G rfl

theorem applyFixpointFuel_of_eq {f : Formula → Formula} {F : Formula} (h : F = applyPost f F) (n : Nat) :
    applyFixpointFuel f (n + 1) F = (applyPost f F, true) := if_pos h

theorem applyFixpointFuel_of_ne {f : Formula → Formula} {F : Formula} (h : F ≠ applyPost f F) (n : Nat) :
    applyFixpointFuel f (n + 1) F = applyFixpointFuel f n (applyPost f F) := if_neg h

theorem applyFixpointFuel_keeps {I : Formula → Prop} {f : Formula → Formula} (hf : ∀ F, I F → I (applyPost f F)) :
    ∀ (n : Nat) (F : Formula), I (applyPost f F) → I (applyFixpointFuel f n F).1 := by
  intro n
  induction n with
  | zero => exact fun _ h => h
  | succ n ih =>
    intro F h
    by_cases e : F = applyPost f F
    · rw [applyFixpointFuel_of_eq e]; exact h
    · rw [applyFixpointFuel_of_ne e]; exact ih _ (hf _ h)

theorem HTEquiv.refl (F : Formula) : HTEquiv F F := fun _ _ _ _ => Iff.rfl
theorem HTEquiv.symm {F G : Formula} (h : HTEquiv F G) : HTEquiv G F :=
  fun M hs w ρ => (h M hs w ρ).symm
theorem HTEquiv.trans {F G H : Formula} (h₁ : HTEquiv F G) (h₂ : HTEquiv G H) : HTEquiv F H :=
  fun M hs w ρ => (h₁ M hs w ρ).trans (h₂ M hs w ρ)

theorem ClassEquiv.refl (F : Formula) : ClassEquiv F F := fun _ _ => Iff.rfl
theorem ClassEquiv.symm {F G : Formula} (h : ClassEquiv F G) : ClassEquiv G F :=
  fun I ρ => (h I ρ).symm
theorem ClassEquiv.trans {F G H : Formula} (h₁ : ClassEquiv F G) (h₂ : ClassEquiv G H) :
    ClassEquiv F H := fun I ρ => (h₁ I ρ).trans (h₂ I ρ)

theorem HTEquiv.not {F G : Formula} (h : HTEquiv F G) : HTEquiv (.not F) (.not G) := by
  intro M hs w ρ; simp only [ht]; exact not_congr (h M hs .there ρ)

theorem HTEquiv.bin {F F' G G' : Formula} (c : Conn) (h₁ : HTEquiv F F') (h₂ : HTEquiv G G') :
    HTEquiv (.bin c F G) (.bin c F' G') := by
  intro M hs w ρ
  cases c <;> simp only [ht, h₁ M hs w ρ, h₂ M hs w ρ, h₁ M hs .there ρ, h₂ M hs .there ρ]

theorem HTEquiv.quant {F G : Formula} (q : Quant) (vs : List Var) (h : HTEquiv F G) :
    HTEquiv (.quant q vs F) (.quant q vs G) := by
  intro M hs w ρ
  cases q <;> simp only [ht]
  · exact bindAll_congr (fun ρ => h M hs w ρ) ρ
  · exact bindEx_congr (fun ρ => h M hs w ρ) ρ

theorem ClassEquiv.not {F G : Formula} (h : ClassEquiv F G) : ClassEquiv (.not F) (.not G) := by
  intro I ρ; simp only [sat]; exact not_congr (h I ρ)

theorem ClassEquiv.bin {F F' G G' : Formula} (c : Conn) (h₁ : ClassEquiv F F')
    (h₂ : ClassEquiv G G') : ClassEquiv (.bin c F G) (.bin c F' G') := by
  intro I ρ
  cases c <;> simp only [sat, h₁ I ρ, h₂ I ρ]

theorem ClassEquiv.quant {F G : Formula} (q : Quant) (vs : List Var) (h : ClassEquiv F G) :
    ClassEquiv (.quant q vs F) (.quant q vs G) := by
  intro I ρ
  cases q <;> simp only [sat]
  · exact bindAll_congr (fun ρ => h I ρ) ρ
  · exact bindEx_congr (fun ρ => h I ρ) ρ

/-- take `H = T` -/
theorem HTEquiv.toClass {F G : Formula} (h : HTEquiv F G) : ClassEquiv F G := by
  intro I ρ
  have := h ⟨I.pred, I.pred, I.fc⟩ (fun _ _ x => x) .there ρ
  rwa [ht_there_eq_sat, ht_there_eq_sat] at this

/-- A preorder compatible with the connectives, read `R new old` (`applyPost`: `R (f F) F`).
    No symmetry is asked, so that "no new free variable" (`FVLe`) is an instance. -/
structure FormulaCongr (R : Formula → Formula → Prop) : Prop where
  refl : ∀ F, R F F
  trans : ∀ {F G H}, R F G → R G H → R F H
  not : ∀ {F G}, R F G → R (.not F) (.not G)
  bin : ∀ (c : Conn) {F F' G G'}, R F F' → R G G' → R (.bin c F G) (.bin c F' G')
  quant : ∀ (q : Quant) (vs : List Var) {F G}, R F G → R (.quant q vs F) (.quant q vs G)

theorem HTEquiv.congr : FormulaCongr HTEquiv :=
  ⟨HTEquiv.refl, HTEquiv.trans, HTEquiv.not, fun c => HTEquiv.bin c, fun q vs => HTEquiv.quant q vs⟩

theorem ClassEquiv.congr : FormulaCongr ClassEquiv :=
  ⟨ClassEquiv.refl, ClassEquiv.trans, ClassEquiv.not, fun c => ClassEquiv.bin c, fun q vs => ClassEquiv.quant q vs⟩

namespace FormulaCongr

theorem and {R S : Formula → Formula → Prop} (hR : FormulaCongr R) (hS : FormulaCongr S) :
    FormulaCongr fun G F => R G F ∧ S G F :=
  ⟨fun F => ⟨hR.refl F, hS.refl F⟩, fun h₁ h₂ => ⟨hR.trans h₁.1 h₂.1, hS.trans h₁.2 h₂.2⟩,
    fun h => ⟨hR.not h.1, hS.not h.2⟩, fun c {_ _ _ _} h₁ h₂ => ⟨hR.bin c h₁.1 h₂.1, hS.bin c h₁.2 h₂.2⟩,
    fun q vs {_ _} h => ⟨hR.quant q vs h.1, hS.quant q vs h.2⟩⟩

variable {R : Formula → Formula → Prop} (hR : FormulaCongr R)
include hR

theorem applyPost {f : Formula → Formula} (hf : ∀ F, R (f F) F) : ∀ F, R (applyPost f F) F := by
  intro F
  induction F with
  | atomic a => exact hf _
  | not g ih => exact hR.trans (hf _) (hR.not ih)
  | bin c l r ihl ihr => exact hR.trans (hf _) (hR.bin c ihl ihr)
  | quant q vs g ih => exact hR.trans (hf _) (hR.quant q vs ih)

theorem compose {fs : List (Formula → Formula)} (h : ∀ f ∈ fs, ∀ F, R (f F) F) (F : Formula) :
    R (compose fs F) F :=
  compose_keeps (I := (R · F)) (fun f hf G hG => hR.trans (h f hf G) hG) F (hR.refl F)

theorem applyFixpointFuel {f : Formula → Formula} (hf : ∀ F, R (f F) F) (n : Nat) (F : Formula) :
    R (applyFixpointFuel f n F).1 F :=
  applyFixpointFuel_keeps (I := (R · F)) (fun G hG => hR.trans (hR.applyPost hf G) hG) n F (hR.applyPost hf F)

theorem simplifyWith {p : Portfolio} (hp : ∀ r ∈ p.rewrites, ∀ F, R (r F) F)
    (s : Strategy) (fuel : Nat) (F : Formula) : R (simplifyWith p s fuel F).1 F := by
  cases s
  · exact hR.compose hp F
  · exact hR.applyPost (hR.compose hp) F
  · exact hR.applyFixpointFuel (hR.compose hp) fuel F

end FormulaCongr

end Anthem
