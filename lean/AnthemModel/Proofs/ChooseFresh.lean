/-
  Freshness of `choose_fresh_variable_names` (used by tau*, and by restrict_quantifier_domain):
  the chosen names are pairwise distinct, not among the taken names, and there are `arity` of them.
  Pigeonhole on the injective family `variant ++ toString j`. The same for `freshVar` of `substitute`.
-/
import Std.Data.String.ToNat
import AnthemModel.Model.Fresh
import AnthemModel.Model.Substitute
namespace Anthem

theorem exists_not_mem_of_injective {α} (f : Nat → α) (hf : ∀ i j, f i = f j → i = j)
    (blocked : List α) (m : Nat) : ∃ j, m ≤ j ∧ j ≤ m + blocked.length ∧ f j ∉ blocked := by
  apply Classical.byContradiction
  intro h
  have hnd : ((List.range' m (blocked.length + 1)).map f).Nodup :=
    List.Pairwise.map f (fun a b hab hc => hab (hf a b hc)) List.nodup_range'
  have hsub : (List.range' m (blocked.length + 1)).map f ⊆ blocked := fun x hx => by
    obtain ⟨j, hj, rfl⟩ := List.mem_map.mp hx
    have := List.mem_range'_1.mp hj
    exact Classical.not_not.mp fun hn => h ⟨j, this.1, by omega, hn⟩
  have := hnd.length_le_of_subset hsub
  rw [List.length_map, List.length_range'] at this
  omega

theorem cand_inj (variant : String) {i j : Nat} (h : variant ++ toString i = variant ++ toString j) :
    i = j :=
  Nat.repr_injective ((String.append_right_inj _).mp h)

theorem exists_free_candidate (variant : String) (blocked : List String) (m : Nat) :
    ∃ j, m ≤ j ∧ j ≤ m + blocked.length ∧ variant ++ toString j ∉ blocked :=
  exists_not_mem_of_injective (variant ++ toString ·) (fun _ _ => cand_inj variant) blocked m

/-- `search` is any function with the two equations of a fuelled search: the three searches for a
    fresh name (`searchName`, `findFresh`, `findFreeGlobal`) are instances. -/
theorem fuel_search_spec {α} (f : Nat → α) (bad : α → Prop) [DecidablePred bad] (search : Nat → Nat → α)
    (h0 : ∀ m, search 0 m = f m)
    (hs : ∀ n m, search (n + 1) m = if bad (f m) then search n (m + 1) else f m) :
    ∀ fuel m, (∃ j, m ≤ j ∧ j ≤ m + fuel ∧ ¬ bad (f j)) →
      ¬ bad (search fuel m) ∧ ∃ j, search fuel m = f j := by
  intro fuel
  induction fuel with
  | zero =>
    intro m ⟨j, h1, h2, h3⟩
    obtain rfl : j = m := Nat.le_antisymm h2 h1
    exact ⟨h0 j ▸ h3, j, h0 j⟩
  | succ n ih =>
    intro m ⟨j, h1, h2, h3⟩
    rw [hs]
    by_cases hb : bad (f m)
    · rw [if_pos hb]
      have hne : m ≠ j := fun e => h3 (e ▸ hb)
      exact ih (m + 1) ⟨j, Nat.lt_of_le_of_ne h1 hne, by omega, h3⟩
    · rw [if_neg hb]
      exact ⟨hb, m, rfl⟩

theorem searchName_fresh (variant : String) (taken fresh : List String) (m : Nat) :
    searchName variant taken fresh (taken.length + fresh.length + 1) m ∉ taken ∧
    searchName variant taken fresh (taken.length + fresh.length + 1) m ∉ fresh := by
  obtain ⟨j, h1, h2, h3⟩ := exists_free_candidate variant (taken ++ fresh) m
  rw [List.length_append] at h2
  have := (fuel_search_spec (variant ++ toString ·) (fun c => (decide (c ∈ taken) || decide (c ∈ fresh)) = true)
    (searchName variant taken fresh) (fun _ => rfl) (fun _ _ => rfl) (taken.length + fresh.length + 1) m
    ⟨j, h1, by omega, by simpa using h3⟩).1
  simpa using this

theorem chooseFreshLoop_spec (variant : String) (taken : List String) :
    ∀ (ns : List Nat) (fresh : List String), fresh.Nodup → (∀ x ∈ fresh, x ∉ taken) →
      (chooseFreshLoop variant taken ns fresh).Nodup ∧
      (∀ x ∈ chooseFreshLoop variant taken ns fresh, x ∉ taken) ∧
      (chooseFreshLoop variant taken ns fresh).length = fresh.length + ns.length := by
  intro ns
  induction ns with
  | nil => exact fun fresh h1 h2 => ⟨h1, h2, rfl⟩
  | cons n ns ih =>
    intro fresh h1 h2
    obtain ⟨hc1, hc2⟩ := searchName_fresh variant taken fresh n
    have := ih (fresh ++ [searchName variant taken fresh (taken.length + fresh.length + 1) n])
      (List.nodup_append.mpr ⟨h1, List.nodup_cons.mpr ⟨List.not_mem_nil, List.nodup_nil⟩,
        fun a ha b hb => List.eq_of_mem_singleton hb ▸ fun e => hc2 (e ▸ ha)⟩)
      (fun x hx => (List.mem_append.mp hx).elim (h2 x) fun hx => List.eq_of_mem_singleton hx ▸ hc1)
    refine ⟨this.1, this.2.1, this.2.2.trans ?_⟩
    rw [List.length_append, List.length_singleton, List.length_cons]
    exact Nat.succ_add_eq_add_succ _ _

theorem chooseFresh_spec (taken : List String) (variant : String) (arity : Nat) :
    (chooseFresh taken variant arity).Nodup ∧ (∀ x ∈ chooseFresh taken variant arity, x ∉ taken) ∧
    (chooseFresh taken variant arity).length = arity := by
  unfold chooseFresh
  split
  · next h =>
    obtain rfl : arity = 0 := Nat.lt_one_iff.mp h
    exact ⟨List.nodup_nil, fun _ h => (nomatch h), rfl⟩
  · split
    · have := chooseFreshLoop_spec variant taken (List.range' 1 arity) [] List.nodup_nil (fun _ h => nomatch h)
      exact ⟨this.1, this.2.1, by rw [this.2.2, List.length_range']; exact Nat.zero_add _⟩
    · next hv =>
      have := chooseFreshLoop_spec variant taken (List.range' 1 (arity - 1)) [variant]
        (List.nodup_cons.mpr ⟨List.not_mem_nil, List.nodup_nil⟩)
        (fun x hx => List.eq_of_mem_singleton hx ▸ hv)
      refine ⟨this.1, this.2.1, ?_⟩
      rw [this.2.2, List.length_range', List.length_singleton]
      exact Nat.add_sub_cancel' (Nat.le_of_not_lt ‹_›)

/-- the `headD` default is never used -/
theorem chooseFresh_one (taken : List String) (variant : String) :
    (chooseFresh taken variant 1).headD variant ∉ taken := by
  obtain ⟨_, h2, h3⟩ := chooseFresh_spec taken variant 1
  match h : chooseFresh taken variant 1 with
  | [] => rw [h] at h3; simp at h3
  | x :: _ => simp only [List.headD]; exact h2 x (by rw [h]; exact List.mem_cons_self)

/-- the `i`-th candidate of `Variable::sequence(base)` -/
def candidate (base : Var) (i : Nat) : Var := ⟨base.name ++ toString i, base.sort⟩

theorem candidate_inj (base : Var) {i j : Nat} (h : candidate base i = candidate base j) : i = j := by
  exact cand_inj base.name (Var.mk.inj h).1

theorem findFresh_spec (base : Var) (taken : List Var) :
    freshVar base taken ∉ taken ∧ ∃ j, freshVar base taken = candidate base j := by
  obtain ⟨j, h1, h2, h3⟩ := exists_not_mem_of_injective (candidate base) (fun _ _ => candidate_inj base) taken 1
  exact fuel_search_spec (candidate base) (· ∈ taken) (findFresh base taken) (fun _ => rfl) (fun _ _ => rfl) (taken.length + 1) 1
    ⟨j, h1, by omega, h3⟩

theorem freshVar_not_mem (base : Var) (taken : List Var) : freshVar base taken ∉ taken :=
  (findFresh_spec base taken).1

theorem freshVar_sort (base : Var) (taken : List Var) : (freshVar base taken).sort = base.sort := by
  obtain ⟨j, hj⟩ := (findFresh_spec base taken).2
  rw [hj]; rfl

end Anthem
