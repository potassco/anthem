/-
  C02: `assemble`, the partition of the two sides into premises and conclusions by role and direction
  annotation. The specification side may carry any direction; the program side is universal.
-/
import AnthemModel.Proofs.ExternalSem
namespace Anthem
open Asp

/-- The three parts `assemble` cuts the left (specification) side into: axioms of both problems,
    further premises of the forward problem, conclusions of the backward problem. -/
def lStable (a : SAnn) : Bool := a.role = .assumption && a.direction = .universal
def lFwdPrem (a : SAnn) : Bool :=
  (a.role = .assumption && a.direction = .forward) ||
    (a.role = .spec && (a.direction = .universal || a.direction = .forward))
def lBwdConc (a : SAnn) : Bool := a.role = .spec && (a.direction = .universal || a.direction = .backward)

theorem selectors_of_universal {a : SAnn} (h : a.direction = .universal) :
    lStable a = isAss a ∧ lFwdPrem a = isSpec a ∧ lBwdConc a = isSpec a := by
  simp [lStable, lFwdPrem, lBwdConc, isAss, isSpec, h]

theorem univSA_selectors {l : List SAnn} (hu : UnivSA l) (Q : SAnn → Prop) :
    ((∀ a ∈ l, lStable a = true → Q a) ↔ ∀ a ∈ l, a.role = .assumption → Q a) ∧
    ((∀ a ∈ l, lFwdPrem a = true → Q a) ↔ ∀ a ∈ l, a.role = .spec → Q a) ∧
    ((∃ a ∈ l, lBwdConc a = true ∧ ¬ Q a) ↔ ¬ ∀ a ∈ l, a.role = .spec → Q a) := by
  have h : ∀ a ∈ l, (lStable a = true ↔ a.role = .assumption) ∧ (lFwdPrem a = true ↔ a.role = .spec) ∧
      (lBwdConc a = true ↔ a.role = .spec) := fun a ha => by
    simp [lStable, lFwdPrem, lBwdConc, (hu a ha).1]
  refine ⟨forall_congr' fun a => forall_congr' fun ha => by rw [(h a ha).1],
    forall_congr' fun a => forall_congr' fun ha => by rw [(h a ha).2.1], ?_⟩
  simp only [Classical.not_forall, exists_prop]
  exact exists_congr fun a => ⟨fun ⟨ha, hp, hq⟩ => ⟨ha, (h a ha).2.2.mp hp, hq⟩,
    fun ⟨ha, hr, hq⟩ => ⟨ha, (h a ha).2.2.mpr hr, hq⟩⟩

theorem assembleStepL_ok (brk : Bool) (s : Assembled) (a : SAnn) (hr : a.role = .spec ∨ a.role = .assumption) :
    assembleStepL brk (.ok s) a = .ok { s with
      stable := if lStable a then s.stable ++ [a.toProblem .axiom] else s.stable,
      fwdPremises := if lFwdPrem a then s.fwdPremises ++ [a.toProblem .axiom] else s.fwdPremises,
      bwdConclusions := if lBwdConc a then s.bwdConclusions ++ conjOf brk a else s.bwdConclusions } := by
  obtain ⟨role, dir, nm, F⟩ := a
  simp only at hr
  rcases hr with rfl | rfl <;> cases dir <;> rfl

theorem assembleStepR_ok (brk : Bool) (s : Assembled) (a : SAnn) (hd : a.direction = .universal)
    (hr : a.role = .spec ∨ a.role = .assumption) :
    assembleStepR brk (.ok s) a = .ok { s with
      stable := if isAss a then s.stable ++ [a.toProblem .axiom] else s.stable,
      bwdPremises := if isSpec a then s.bwdPremises ++ [a.toProblem .axiom] else s.bwdPremises,
      fwdConclusions := if isSpec a then s.fwdConclusions ++ conjOf brk a else s.fwdConclusions } := by
  obtain ⟨role, dir, nm, F⟩ := a
  simp only at hr hd
  subst hd
  rcases hr with rfl | rfl <;> rfl

theorem ite_append_filter_flatMap {α β} (p : α → Bool) (g : α → List β) (a : α) (l : List α) (x : List β) :
    (if p a = true then x ++ g a else x) ++ (l.filter p).flatMap g = x ++ ((a :: l).filter p).flatMap g := by
  cases h : p a <;> simp [h]

theorem ite_append_filter_map {α β} (p : α → Bool) (f : α → β) (a : α) (l : List α) (x : List β) :
    (if p a = true then x ++ [f a] else x) ++ (l.filter p).map f = x ++ ((a :: l).filter p).map f := by
  cases h : p a <;> simp [h]

theorem foldl_stepL (brk : Bool) : ∀ (l : List SAnn) (s : Assembled), RolesAS l →
    l.foldl (assembleStepL brk) (.ok s) = .ok { s with
      stable := s.stable ++ (l.filter lStable).map (·.toProblem .axiom),
      fwdPremises := s.fwdPremises ++ (l.filter lFwdPrem).map (·.toProblem .axiom),
      bwdConclusions := s.bwdConclusions ++ (l.filter lBwdConc).flatMap (conjOf brk) } := by
  intro l
  induction l with
  | nil => intro s _; simp
  | cons a l ih =>
    intro s h
    rw [List.foldl_cons, assembleStepL_ok brk s a (h a List.mem_cons_self),
      ih _ fun x hx => h x (List.mem_cons_of_mem _ hx)]
    simp only [ite_append_filter_map _ (fun x : SAnn => x.toProblem .axiom), ite_append_filter_flatMap]

theorem foldl_stepR (brk : Bool) : ∀ (l : List SAnn) (s : Assembled), UnivSA l →
    l.foldl (assembleStepR brk) (.ok s) = .ok { s with
      stable := s.stable ++ (l.filter isAss).map (·.toProblem .axiom),
      bwdPremises := s.bwdPremises ++ (l.filter isSpec).map (·.toProblem .axiom),
      fwdConclusions := s.fwdConclusions ++ (l.filter isSpec).flatMap (conjOf brk) } := by
  intro l
  induction l with
  | nil => intro s _; simp
  | cons a l ih =>
    intro s h
    rw [List.foldl_cons, assembleStepR_ok brk s a (h a List.mem_cons_self).1 (h a List.mem_cons_self).2,
      ih _ fun x hx => h x (List.mem_cons_of_mem _ hx)]
    simp only [ite_append_filter_map _ (fun x : SAnn => x.toProblem .axiom), ite_append_filter_flatMap]
theorem assemble_ok_spec (left right ug : List SAnn) (brk : Bool) (hl : RolesAS left) (hr : UnivSA right) :
    assemble left right ug brk = .ok {
      stable := ug.map (·.toProblem .axiom) ++ (left.filter lStable).map (·.toProblem .axiom) ++
        (right.filter isAss).map (·.toProblem .axiom),
      fwdPremises := (left.filter lFwdPrem).map (·.toProblem .axiom),
      fwdConclusions := (right.filter isSpec).flatMap (conjOf brk),
      bwdPremises := (right.filter isSpec).map (·.toProblem .axiom),
      bwdConclusions := (left.filter lBwdConc).flatMap (conjOf brk) } := by
  unfold assemble
  simp only
  rw [foldl_stepL brk left _ hl, foldl_stepR brk right _ hr]
  simp

def assembledSpec (t : ExternalTask) (S : Specification) (ΓR : Theory) : Assembled :=
  let right := rightSide t ΓR
  let ug := t.userGuide.formulas.filter fun f => f.role = .assumption
  { stable := ug.map (·.toProblem .axiom) ++ (S.filter lStable).map (·.toProblem .axiom) ++
      (right.filter isAss).map (·.toProblem .axiom),
    fwdPremises := (S.filter lFwdPrem).map (·.toProblem .axiom),
    fwdConclusions := (right.filter isSpec).flatMap (conjOf t.breakEq),
    bwdPremises := (right.filter isSpec).map (·.toProblem .axiom),
    bwdConclusions := (S.filter lBwdConc).flatMap (conjOf t.breakEq) }

def NoSymbolConflictSpec (t : ExternalTask) (S : Specification) (ΓR : Theory) : Prop :=
  let a := assembledSpec t S ΓR
  (mkProblem0 "forward_problem" [a.stable, a.fwdPremises, [], a.fwdConclusions]).renameConflictingSymbols =
    mkProblem0 "forward_problem" [a.stable, a.fwdPremises, [], a.fwdConclusions] ∧
  (mkProblem0 "backward_problem" [a.stable, a.bwdPremises, [], a.bwdConclusions]).renameConflictingSymbols =
    mkProblem0 "backward_problem" [a.stable, a.bwdPremises, [], a.bwdConclusions]

end Anthem
