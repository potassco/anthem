/-
  C08: the natural translation of a rule it accepts means the same as the rule in the reference
  semantics (hence the same as its tau* formula, C01), at both worlds of every HT interpretation.
-/
import AnthemModel.Proofs.TauStarRules
import AnthemModel.Model.Natural
namespace Anthem
open Asp

/-- the variables in `iv` are read through their integer-sorted copies -/
def σiv (iv : List String) (ρ : Asg) : Subst :=
  fun x => if x ∈ iv then .num (ρ ⟨x, .integer⟩).toInt else ρ ⟨x, .general⟩

def IsInt (d : Dom) : Prop := ∃ n : Int, d = .num n

theorem vals_int_vars {σ : Subst} : ∀ (t : Term) (n : Int), vals σ t (.num n) → ∀ x ∈ t.vars, IsInt (σ x) := by
  intro t
  induction t with
  | pre p => intro n _ x hx; cases hx
  | var y =>
    intro n h x hx
    cases List.mem_singleton.mp hx
    exact ⟨n, h.symm⟩
  | neg a ih =>
    intro n ⟨m, hm, _⟩
    exact ih m hm
  | bin op l r ihl ihr =>
    intro n ⟨a, b, ha, hb, _⟩ x hx
    exact (mem_ext.mp hx).elim (ihl a ha x) (ihr b hb x)

def isCompound : Term → Bool
  | .neg _ | .bin .. => true
  | _ => false

theorem compound_vals_int {σ : Subst} (t : Term) (hc : isCompound t = true) (d : Dom) (h : vals σ t d) :
    ∀ x ∈ t.vars, IsInt (σ x) := by
  cases t with
  | pre _ | var _ => cases hc
  | neg a =>
    obtain ⟨m, hm, _⟩ := h
    exact vals_int_vars a m hm
  | bin op l r =>
    obtain ⟨a, b, ha, hb, _⟩ := h
    exact fun x hx => (mem_ext.mp hx).elim (vals_int_vars l a ha x) (vals_int_vars r b hb x)

/-- the total arithmetic operators of mini-gringo -/
def Asp.Op.arith : Op → Option IOp
  | .add => some .add
  | .sub => some .sub
  | .mul => some .mul
  | _ => none

theorem vals_arith {op : Op} {iop : IOp} (h : op.arith = some iop) (σ : Subst) (l r : Term) (d : Dom) :
    vals σ (.bin op l r) d ↔
      ∃ a b, vals σ l (.num a) ∧ vals σ r (.num b) ∧ d = .num (iop.eval a b) := by
  cases op <;> cases h <;> exact Iff.rfl

theorem p2fInt_arith {op : Op} {iop : IOp} (h : op.arith = some iop) (l r : Term) :
    p2fInt (.bin op l r) =
      (p2fInt l).bind fun il => (p2fInt r).bind fun ir => some (.bin iop il ir) := by
  cases op <;> cases h <;> rfl

theorem regFirst_arith {op : Op} {iop : IOp} (h : op.arith = some iop) (l r : Term) :
    regFirst (.bin op l r) = (regFirst l && !containsSIS l && regFirst r && !containsSIS r) := by
  cases op <;> cases h <;> rfl

theorem not_arith {op : Op} (h : op.arith = none) (l r : Term) :
    p2fInt (.bin op l r) = none ∧ regFirst (.bin op l r) = false := by
  cases op <;> cases h <;> exact ⟨rfl, rfl⟩

theorem p2fInt_sem (fc : FcI) (ρ : Asg) (σ : Subst) : ∀ (t : Term) (it : ITerm), p2fInt t = some it →
    (∀ x ∈ t.vars, σ x = .num (ρ ⟨x, .integer⟩).toInt) → ∀ d, vals σ t d ↔ d = .num (it.eval fc ρ) := by
  intro t
  induction t with
  | pre p =>
    intro it h _ d
    cases p with
    | num n => cases h; exact Iff.rfl
    | inf | sup | sym _ => cases h
  | var x =>
    intro it h hσ d
    cases h
    rw [vals, hσ x (List.mem_singleton_self x)]
    rfl
  | neg a ih =>
    intro it h hσ d
    obtain ⟨ia, ha, rfl⟩ := Option.map_eq_some_iff.mp h
    simp only [vals, ih ia ha hσ, Dom.num.injEq, exists_eq_left, ITerm.eval, Int.zero_sub]
  | bin op l r ihl ihr =>
    intro it h hσ d
    cases ha : op.arith with
    | none => rw [(not_arith ha l r).1] at h; cases h
    | some iop =>
      rw [p2fInt_arith ha] at h
      obtain ⟨il, hil, h⟩ := Option.bind_eq_some_iff.mp h
      obtain ⟨ir, hir, h⟩ := Option.bind_eq_some_iff.mp h
      cases h
      simp only [vals_arith ha, ihl il hil fun x hx => hσ x (mem_ext.mpr (Or.inl hx)),
        ihr ir hir fun x hx => hσ x (mem_ext.mpr (Or.inr hx)), Dom.num.injEq, ITerm.eval]
      exact ⟨fun ⟨_, _, e1, e2, h⟩ => e1 ▸ e2 ▸ h, fun h => ⟨_, _, rfl, rfl, h⟩⟩

theorem p2f_sem (fc : FcI) (ρ : Asg) (iv : List String) (t : Term) (g : GTerm) (h : p2f t iv = some g)
    (hiv : isCompound t = true → ∀ x ∈ t.vars, x ∈ iv) (d : Dom) :
    vals (σiv iv ρ) t d ↔ d = g.eval fc ρ := by
  have hint := fun (hc : isCompound t = true) (it : ITerm) (hit : p2fInt t = some it) =>
    p2fInt_sem fc ρ (σiv iv ρ) t it hit (fun x hx => if_pos (hiv hc x hx)) d
  unfold p2f at h
  split at h
  · cases h
  · cases t with
    | var x =>
      rw [vals, σiv]
      dsimp only at h
      split at h
      · cases h
        rw [if_pos ‹_›]
        rfl
      · cases h
        rw [if_neg ‹_›]
        rfl
    | pre p =>
      cases h
      rw [vals, preToGTerm_eval]
    | neg a =>
      obtain ⟨it, hit, rfl⟩ := Option.map_eq_some_iff.mp h
      exact hint rfl it hit
    | bin op l r =>
      obtain ⟨it, hit, rfl⟩ := Option.map_eq_some_iff.mp h
      exact hint rfl it hit

theorem mapM_cons_eq_some {α β} {f : α → Option β} {a : α} {l : List α} {l' : List β} :
    (a :: l).mapM f = some l' ↔ ∃ b bs, f a = some b ∧ l.mapM f = some bs ∧ l' = b :: bs := by
  simp only [List.mapM_cons, Option.pure_def, Option.bind_eq_bind, Option.bind_eq_some_iff,
    Option.some.injEq]
  exact ⟨fun ⟨b, hb, bs, hbs, e⟩ => ⟨b, bs, hb, hbs, e.symm⟩,
    fun ⟨b, bs, hb, hbs, e⟩ => ⟨b, hb, bs, hbs, e.symm⟩⟩

theorem mapM_nil_eq_some {α β} {f : α → Option β} {l' : List β} :
    ([] : List α).mapM f = some l' ↔ l' = [] := by
  simp only [List.mapM_nil, Option.pure_def, Option.some.injEq]
  exact eq_comm

theorem mapM_p2f_sem (fc : FcI) (ρ : Asg) (iv : List String) : ∀ (args : List Term) (ts : List GTerm),
    args.mapM (fun t => p2f t iv) = some ts →
    (∀ t ∈ args, isCompound t = true → ∀ x ∈ t.vars, x ∈ iv) →
    ∀ ds, valsList (σiv iv ρ) args ds ↔ ds = ts.map (GTerm.eval fc ρ) := by
  intro args
  induction args with
  | nil =>
    intro ts h _ ds
    cases mapM_nil_eq_some.mp h
    cases ds with
    | nil => exact iff_of_true trivial rfl
    | cons => exact iff_of_false id (fun e => nomatch e)
  | cons t rest ih =>
    intro ts h hiv ds
    obtain ⟨g, gs, hg, hgs, rfl⟩ := mapM_cons_eq_some.mp h
    cases ds with
    | nil => exact iff_of_false id (fun e => nomatch e)
    | cons d ds =>
      rw [List.map_cons, List.cons.injEq]
      exact and_congr (p2f_sem fc ρ iv t g hg (hiv t List.mem_cons_self) d)
        (ih gs hgs (fun t' ht' => hiv t' (List.mem_cons_of_mem _ ht')) ds)

theorem ht_cmp2 (M : HTI) (w : World) (τ : Asg) (a m b : GTerm) :
    ht M (.atomic (.cmp a [⟨.le, m⟩, ⟨.le, b⟩])) w τ ↔
      Dom.le (a.eval M.fc τ) (m.eval M.fc τ) ∧ Dom.le (m.eval M.fc τ) (b.eval M.fc τ) := by
  simp only [ht, AtomicF.sat, cmpChain, Rel.holds, and_true]

theorem between_iff (a2 a3 : Int) (lv : Dom) :
    (Dom.le (.num a2) lv ∧ Dom.le lv (.num a3)) ↔ ∃ k : Int, a2 ≤ k ∧ k ≤ a3 ∧ lv = .num k := by
  cases lv with
  | inf | sup | sym s => exact iff_of_false (fun h => by simp [Dom.le] at h) (fun ⟨_, _, _, e⟩ => nomatch e)
  | num k => exact ⟨fun h => ⟨k, h.1, h.2, rfl⟩, fun ⟨_, h1, h2, e⟩ => by cases e; exact ⟨h1, h2⟩⟩

theorem vals_interval {σ : Subst} {t2 t3 : Term} {a2 a3 : Int}
    (e2 : ∀ d, vals σ t2 d ↔ d = .num a2) (e3 : ∀ d, vals σ t3 d ↔ d = .num a3) (d : Dom) :
    vals σ (.bin .interval t2 t3) d ↔ ∃ k : Int, a2 ≤ k ∧ k ≤ a3 ∧ d = .num k := by
  simp only [vals, e2, e3, Dom.num.injEq]
  exact ⟨fun ⟨_, _, e1, e2, h⟩ => e1 ▸ e2 ▸ h, fun h => ⟨_, _, rfl, rfl, h⟩⟩

theorem regSecond_form {t : Term} (h : regSecond t = true) :
    ∃ t2 t3, t = .bin .interval t2 t3 ∧ regFirst t2 = true ∧ containsSIS t2 = false ∧
      regFirst t3 = true ∧ containsSIS t3 = false := by
  cases t with
  | pre _ | var _ | neg _ => cases h
  | bin op l r =>
    cases op <;> first | cases h | skip
    simp only [regSecond, Bool.and_eq_true, Bool.not_eq_true'] at h
    exact ⟨l, r, rfl, h.1.1.1, h.1.1.2, h.1.2, h.2⟩

theorem p2fInt_isSome : ∀ t : Term, regFirst t = true → containsSIS t = false → ∃ it, p2fInt t = some it := by
  intro t
  induction t with
  | pre p =>
    intro _ hs
    cases p with
    | num n => exact ⟨_, rfl⟩
    | inf | sup | sym _ => cases hs
  | var x => intro _ _; exact ⟨_, rfl⟩
  | neg a ih =>
    intro hr hs
    simp only [regFirst, Bool.and_eq_true, Bool.not_eq_true'] at hr
    obtain ⟨ia, ha⟩ := ih hr.1 hr.2
    exact ⟨.neg ia, by rw [p2fInt, ha]; rfl⟩
  | bin op l r ihl ihr =>
    intro hr hs
    cases ha : op.arith with
    | none => rw [(not_arith ha l r).2] at hr; cases hr
    | some iop =>
      simp only [regFirst_arith ha, Bool.and_eq_true, Bool.not_eq_true'] at hr
      obtain ⟨il, hl⟩ := ihl hr.1.1.1 hr.1.1.2
      obtain ⟨ir, hr'⟩ := ihr hr.1.2 hr.2
      exact ⟨_, by rw [p2fInt_arith ha, hl, hr']; rfl⟩

theorem p2f_bound (iv : List String) {t : Term} (hr : regFirst t = true) (hs : containsSIS t = false)
    (hv : ∀ x ∈ t.vars, x ∈ iv) : ∃ it, p2f t iv = some (.int it) := by
  obtain ⟨it, hit⟩ := p2fInt_isSome t hr hs
  refine ⟨it, ?_⟩
  unfold p2f
  rw [if_neg (by rw [hr]; exact Bool.false_ne_true)]
  cases t with
  | var x => cases hit; exact if_pos (hv x (List.mem_singleton_self x))
  | pre p => cases p <;> cases hit; rfl
  | neg a => exact congrArg (Option.map GTerm.int) hit
  | bin op l r => exact congrArg (Option.map GTerm.int) hit

theorem regSecond_sem (fc : FcI) (iv : List String) {t : Term} (h : regSecond t = true)
    (hv : isCompound t = true → ∀ x ∈ t.vars, x ∈ iv) :
    ∃ t1 t2 ia ib, t = .bin .interval t1 t2 ∧ p2f t1 iv = some (.int ia) ∧ p2f t2 iv = some (.int ib) ∧
      ∀ ρ d, vals (σiv iv ρ) t d ↔ ∃ k : Int, ia.eval fc ρ ≤ k ∧ k ≤ ib.eval fc ρ ∧ d = .num k := by
  obtain ⟨t1, t2, rfl, hf1, hs1, hf2, hs2⟩ := regSecond_form h
  have hv1 : ∀ x ∈ t1.vars, x ∈ iv := fun x hx => hv rfl x (mem_ext.mpr (Or.inl hx))
  have hv2 : ∀ x ∈ t2.vars, x ∈ iv := fun x hx => hv rfl x (mem_ext.mpr (Or.inr hx))
  obtain ⟨ia, ha⟩ := p2f_bound iv hf1 hs1 hv1
  obtain ⟨ib, hb⟩ := p2f_bound iv hf2 hs2 hv2
  exact ⟨t1, t2, ia, ib, rfl, ha, hb, fun ρ =>
    vals_interval (p2f_sem fc ρ iv t1 _ ha fun _ => hv1) (p2f_sem fc ρ iv t2 _ hb fun _ => hv2)⟩

theorem naturalComparison_sem (M : HTI) (w : World) (ρ : Asg) (iv : List String) (rel : Asp.Rel)
    (l r : Term) (F : Formula) (h : naturalComparison rel l r iv = some F)
    (hl : isCompound l = true → ∀ x ∈ l.vars, x ∈ iv)
    (hr : isCompound r = true → ∀ x ∈ r.vars, x ∈ iv) :
    ht M F w ρ ↔ bodyAtomSat M w (σiv iv ρ) (.cmp rel l r) := by
  unfold naturalComparison at h
  obtain ⟨lhs, hlhs, h1⟩ := Option.bind_eq_some_iff.mp h
  clear h
  have el := p2f_sem M.fc ρ iv l lhs hlhs hl
  split at h1
  · -- `l = t2..t3`
    rename_i hcond
    obtain ⟨hrel, hreg⟩ := Bool.and_eq_true_iff.mp hcond
    cases of_decide_eq_true hrel
    obtain ⟨t2, t3, i2, i3, rfl, h2, h3, hvals⟩ := regSecond_sem M.fc iv hreg hr
    simp only [h2, h3, Option.bind_eq_bind, Option.bind_some, Option.some.injEq] at h1
    subst h1
    simp only [ht_cmp2, bodyAtomSat, hvals, el, Asp.Rel.holds]
    refine (between_iff _ _ _).trans ?_
    exact ⟨fun ⟨k, h1, h2, e⟩ => ⟨_, _, rfl, ⟨k, h1, h2, rfl⟩, e⟩,
      fun ⟨_, _, e1, ⟨k, h1, h2, e2⟩, e⟩ => ⟨k, h1, h2, by rw [← e1, e, e2]⟩⟩
  · obtain ⟨rhs, hrhs, h2⟩ := Option.bind_eq_some_iff.mp h1
    cases h2
    have er := p2f_sem M.fc ρ iv r rhs hrhs hr
    refine ((ht_cmp1 ..).trans (convRel_holds ..)).trans ?_
    simp only [bodyAtomSat, el, er]
    exact ⟨fun h => ⟨_, _, rfl, rfl, h⟩, fun ⟨_, _, e1, e2, h⟩ => e1 ▸ e2 ▸ h⟩

theorem mem_foldl_of_step {α β} {f : List β → α → List β} {G : α → β → Prop}
    (hf : ∀ acc a x, x ∈ f acc a ↔ x ∈ acc ∨ G a x) (l : List α) (init : List β) (x : β) :
    x ∈ l.foldl f init ↔ x ∈ init ∨ ∃ a ∈ l, G a x := by
  induction l generalizing init with
  | nil => exact ⟨Or.inl, fun h => h.elim id fun ⟨_, h, _⟩ => nomatch h⟩
  | cons a l ih =>
    rw [List.foldl_cons, ih, hf, or_assoc]
    exact or_congr_right ⟨fun h => h.elim (fun h => ⟨a, List.mem_cons_self, h⟩)
        fun ⟨b, hb, h⟩ => ⟨b, List.mem_cons_of_mem _ hb, h⟩,
      fun ⟨b, hb, h⟩ => (List.mem_cons.mp hb).elim (fun e => Or.inl (e ▸ h)) fun hb => Or.inr ⟨b, hb, h⟩⟩

theorem mem_foldl_ins {α} [DecidableEq α] (l : List α) (init : List α) (x : α) :
    x ∈ l.foldl ins init ↔ x ∈ init ∨ x ∈ l :=
  (mem_foldl_of_step (G := fun a x => x = a) (fun _ _ _ => mem_ins) l init x).trans
    (or_congr_right ⟨fun ⟨_, h, e⟩ => e ▸ h, fun h => ⟨x, h, rfl⟩⟩)

theorem mem_bodyAtom_terms {f : BodyAtom} {t : Term} :
    t ∈ f.terms ↔ (match f with | .lit l => t ∈ l.atom.args | .cmp _ l r => t = l ∨ t = r) := by
  cases f with
  | lit l => simp [BodyAtom.terms, mem_foldl_ins]
  | cmp rel l r => simp [BodyAtom.terms, mem_ins]

/-- what `int_variables` guarantees for the terms of one body atom -/
def AtomCovered (iv : List String) (f : BodyAtom) : Prop :=
  (∀ t ∈ f.terms, isCompound t = true → ∀ x ∈ t.vars, x ∈ iv)

theorem naturalBodyAtom_sem (M : HTI) (w : World) (ρ : Asg) (iv : List String) (f : BodyAtom) (F : Formula)
    (h : (match f with
      | .lit l => (naturalBAtom l.atom iv).map fun a => signed l.sign (.atomic (.atom a))
      | .cmp rel l r => naturalComparison rel l r iv) = some F)
    (hc : AtomCovered iv f) : ht M F w ρ ↔ bodyAtomSat M w (σiv iv ρ) f := by
  cases f with
  | lit l =>
    obtain ⟨s, a⟩ := l
    obtain ⟨a', ha', rfl⟩ := Option.map_eq_some_iff.mp h
    obtain ⟨ts, hts, ha'⟩ := Option.bind_eq_some_iff.mp ha'
    cases ha'
    simp only [bodyAtomSat_lit, ht_signed, exists_eq_left,
      mapM_p2f_sem M.fc ρ iv a.args ts hts fun t ht => hc t (mem_bodyAtom_terms.mpr ht)]
  | cmp rel l r =>
    exact naturalComparison_sem M w ρ iv rel l r F h
      (hc l (mem_bodyAtom_terms.mpr (Or.inl rfl))) (hc r (mem_bodyAtom_terms.mpr (Or.inr rfl)))

theorem mapM_forall {α β} (g : α → Option β) (P : β → Prop) (Q : α → Prop) : ∀ (l : List α) (l' : List β),
    l.mapM g = some l' → (∀ a ∈ l, ∀ b, g a = some b → (P b ↔ Q a)) →
    ((∀ b ∈ l', P b) ↔ ∀ a ∈ l, Q a) := by
  intro l
  induction l with
  | nil =>
    intro l' h _
    cases mapM_nil_eq_some.mp h
    exact iff_of_true (fun _ h => nomatch h) (fun _ h => nomatch h)
  | cons a l ih =>
    intro l' h hpq
    obtain ⟨b, bs, hb, hbs, rfl⟩ := mapM_cons_eq_some.mp h
    rw [List.forall_mem_cons, List.forall_mem_cons, hpq a List.mem_cons_self b hb,
      ih bs hbs fun a' ha' => hpq a' (List.mem_cons_of_mem _ ha')]

theorem naturalBody_sem (M : HTI) (w : World) (ρ : Asg) (iv : List String) (b : List BodyAtom)
    (G : Formula) (h : naturalBody b iv = some G) (hc : ∀ f ∈ b, AtomCovered iv f) :
    ht M G w ρ ↔ bodySat M w (σiv iv ρ) b := by
  unfold naturalBody at h
  obtain ⟨fs, hfs, h⟩ := Option.bind_eq_some_iff.mp h
  cases h
  rw [ht_conjoin]
  exact mapM_forall _ (fun F => ht M F w ρ) (fun f => bodyAtomSat M w (σiv iv ρ) f) b fs hfs
    fun f hf F hF => naturalBodyAtom_sem M w ρ iv f F hF (hc f hf)

theorem regSecond_false_of_regFirst {t : Term} (h : regFirst t = true) : regSecond t = false := by
  cases t with
  | pre _ | var _ | neg _ => rfl
  | bin op l r =>
    cases op with
    | interval => cases h
    | _ => rfl

def intVarsOf (fresh : List String) : List Var := fresh.map fun n => ⟨n, .integer⟩

theorem mem_intVarsOf {fresh : List String} {v : Var} :
    v ∈ intVarsOf fresh ↔ ∃ n ∈ fresh, v = ⟨n, .integer⟩ :=
  List.mem_map.trans (exists_congr fun _ => and_congr_right fun _ => eq_comm)

theorem σiv_upd (iv : List String) {fresh : List String} {ρ τ : Asg}
    (hτ : AllUpd (intVarsOf fresh) ρ τ) {x : String} (hx : x ∉ fresh) : σiv iv τ x = σiv iv ρ x := by
  unfold σiv
  rw [hτ.1 ⟨x, .integer⟩ fun hm => by obtain ⟨n, hn, e⟩ := mem_intVarsOf.mp hm; cases e; exact hx hn,
    hτ.1 ⟨x, .general⟩ fun hm => by obtain ⟨n, _, e⟩ := mem_intVarsOf.mp hm; cases e]

theorem p2f_eval_fresh (fc : FcI) (iv : List String) (t : Term) (g : GTerm) (h : p2f t iv = some g)
    (hiv : isCompound t = true → ∀ x ∈ t.vars, x ∈ iv) (fresh : List String)
    (hf : ∀ f ∈ fresh, f ∉ t.vars) {ρ τ : Asg} (hτ : AllUpd (intVarsOf fresh) ρ τ) :
    g.eval fc τ = g.eval fc ρ :=
  (p2f_sem fc ρ iv t g h hiv _).mp
    ((vals_congr t _ fun x hx => σiv_upd iv hτ fun hm => hf x hm hx).mp
      ((p2f_sem fc τ iv t g h hiv _).mpr rfl))

theorem σiv_congr_set (iv : List String) (ρ : Asg) (f : String) (d : Dom) (x : String) (hx : x ≠ f) :
    σiv iv (ρ.set ⟨f, .integer⟩ d) x = σiv iv ρ x := by
  unfold σiv
  rw [Asg.set_other ρ d (by intro e; cases e; exact hx rfl),
    Asg.set_other ρ d (by intro e; cases e)]

/-- Stated for an arbitrary property `C` of the value tuple, in the form the head formula has. -/
theorem headTerms_sem (M : HTI) (w : World) (iv : List String) :
    ∀ (args : List Term) (fresh : List String) (ts : List GTerm) (ρ : Asg),
      naturalHeadTerms iv args fresh = some ts →
      (∀ t ∈ args, isCompound t = true → ∀ x ∈ t.vars, x ∈ iv) →
      (∀ f ∈ fresh, ∀ t ∈ args, f ∉ t.vars) → fresh.Nodup →
      ∀ C : List Dom → Prop, (∀ ds, valsList (σiv iv ρ) args ds → C ds) ↔
        bindAll (intVarsOf fresh) (fun τ => (∀ F ∈ naturalHeadIntervals iv args fresh, ht M F w τ) →
          C (ts.map (GTerm.eval M.fc τ))) ρ := by
  intro args
  induction args with
  | nil =>
    intro fresh ts ρ h _ _ _ C
    cases h
    have e : (∀ ds, valsList (σiv iv ρ) [] ds → C ds) ↔ C [] :=
      ⟨fun h => h [] trivial, fun h ds hv => by
        cases ds with
        | nil => exact h
        | cons => exact hv.elim⟩
    have e' : ∀ τ : Asg, ((∀ F ∈ naturalHeadIntervals iv [] fresh, ht M F w τ) →
        C (([] : List GTerm).map (GTerm.eval M.fc τ))) ↔ C [] :=
      fun τ => ⟨fun h => h fun _ hF => (nomatch hF), fun h _ => h⟩
    exact e.trans ((bindAll_congr e' ρ).trans bindAll_const).symm
  | cons t rest ih =>
    intro fresh ts ρ h hiv hfresh hnd C
    have hivr : ∀ t' ∈ rest, isCompound t' = true → ∀ x ∈ t'.vars, x ∈ iv :=
      fun t' ht' => hiv t' (List.mem_cons_of_mem _ ht')
    have hsplit : (∀ ds, valsList (σiv iv ρ) (t :: rest) ds → C ds) ↔
        ∀ d, vals (σiv iv ρ) t d → ∀ ds', valsList (σiv iv ρ) rest ds' → C (d :: ds') :=
      ⟨fun h d hd ds' hr => h (d :: ds') ⟨hd, hr⟩, fun h ds hv => by
        cases ds with
        | nil => exact hv.elim
        | cons d ds' => exact h d hv.1 ds' hv.2⟩
    rw [hsplit]
    by_cases hrf : regFirst t = true
    · -- a term of the first kind: one value, no fresh variable
      change (if regFirst t = true then _ else _) = _ at h
      rw [if_pos hrf] at h
      obtain ⟨g, hg, h⟩ := Option.bind_eq_some_iff.mp h
      obtain ⟨rs, hrs, h⟩ := Option.bind_eq_some_iff.mp h
      cases h
      have hint : naturalHeadIntervals iv (t :: rest) fresh = naturalHeadIntervals iv rest fresh := by
        simp only [naturalHeadIntervals, regSecond_false_of_regFirst hrf, Bool.false_eq_true, if_false]
      have et := p2f_sem M.fc ρ iv t g hg (hiv t List.mem_cons_self)
      have step : (∀ d, vals (σiv iv ρ) t d → ∀ ds', valsList (σiv iv ρ) rest ds' → C (d :: ds')) ↔
          ∀ ds', valsList (σiv iv ρ) rest ds' → C (g.eval M.fc ρ :: ds') :=
        ⟨fun h => h _ ((et _).mpr rfl), fun h d hd => (et d).mp hd ▸ h⟩
      rw [step, ih fresh rs ρ hrs hivr
        (fun f hf t' ht' => hfresh f hf t' (List.mem_cons_of_mem _ ht')) hnd, hint]
      exact bindQ_congr_upd (q := .all) (fun _ => Iff.rfl) fun τ hτ => by
        rw [List.map_cons, p2f_eval_fresh M.fc iv t g hg (hiv t List.mem_cons_self) fresh
          (fun f hf => hfresh f hf t List.mem_cons_self) hτ]
    · -- an interval: one fresh integer variable ranges over it
      change (if regFirst t = true then _ else if regSecond t = true then _ else _) = _ at h
      rw [if_neg hrf] at h
      by_cases hsec : regSecond t = true
      · rw [if_pos hsec] at h
        obtain ⟨t1, t2, ia, ib, rfl, ha, hb, hvals⟩ := regSecond_sem M.fc iv hsec (hiv _ List.mem_cons_self)
        cases fresh with
        | nil => cases h
        | cons f fs =>
          obtain ⟨rs, hrs, h⟩ := Option.bind_eq_some_iff.mp h
          cases h
          have hvt := hiv _ List.mem_cons_self rfl
          have hv1 : ∀ x ∈ t1.vars, x ∈ iv := fun x hx => hvt x (mem_ext.mpr (Or.inl hx))
          have hv2 : ∀ x ∈ t2.vars, x ∈ iv := fun x hx => hvt x (mem_ext.mpr (Or.inr hx))
          have hint : naturalHeadIntervals iv (.bin .interval t1 t2 :: rest) (f :: fs) =
              .atomic (.cmp (.int ia) [⟨.le, .int (.var f)⟩, ⟨.le, .int ib⟩]) ::
                naturalHeadIntervals iv rest fs := by
            simp only [naturalHeadIntervals, hsec, ha, hb, if_true]
          have hnd' := List.nodup_cons.mp hnd
          have hft := fun (g : String) (hg : g ∈ f :: fs) => hfresh g hg _ List.mem_cons_self
          have step : (∀ d, vals (σiv iv ρ) (.bin .interval t1 t2) d →
                ∀ ds', valsList (σiv iv ρ) rest ds' → C (d :: ds')) ↔
              ∀ k : Int, (ia.eval M.fc ρ ≤ k ∧ k ≤ ib.eval M.fc ρ) →
                ∀ ds', valsList (σiv iv (ρ.set ⟨f, .integer⟩ (.num k))) rest ds' → C (.num k :: ds') := by
            have hcongr : ∀ (d : Dom) (ds : List Dom),
                valsList (σiv iv (ρ.set ⟨f, .integer⟩ d)) rest ds ↔ valsList (σiv iv ρ) rest ds :=
              fun d ds => valsList_congr rest ds fun t' ht' x hx => σiv_congr_set iv ρ f d x fun e =>
                hfresh f List.mem_cons_self t' (List.mem_cons_of_mem _ ht') (e ▸ hx)
            simp only [hcongr]
            exact ⟨fun h k hk => h _ ((hvals ρ _).mpr ⟨k, hk.1, hk.2, rfl⟩), fun h d hd => by
              obtain ⟨k, h1, h2, rfl⟩ := (hvals ρ d).mp hd
              exact h k ⟨h1, h2⟩⟩
          rw [step, hint]
          refine Iff.trans (forall_congr' fun k => ?_) (bindAll_int f (intVarsOf fs) _ ρ).symm
          rw [ih fs rs (ρ.set ⟨f, .integer⟩ (.num k)) hrs hivr
            (fun g hg t' ht' => hfresh g (List.mem_cons_of_mem _ hg) t' (List.mem_cons_of_mem _ ht'))
            hnd'.2, ← bindAll_const_imp]
          -- under the remaining binders `f` keeps the value `k` and the bounds their values
          refine bindQ_congr_upd (q := .all) (fun _ => Iff.rfl) fun τ hτ => ?_
          have hτf : τ ⟨f, .integer⟩ = .num k :=
            (hτ.1 _ fun hm => by
              obtain ⟨n, hn, e⟩ := mem_intVarsOf.mp hm
              cases e; exact hnd'.1 hn).trans (Asg.set_same ..)
          have hτall : AllUpd (intVarsOf (f :: fs)) ρ τ := AllUpd.cons.mpr ⟨.num k, trivial, hτ⟩
          have hvar : (GTerm.int (.var f)).eval M.fc τ = .num k := by
            simp only [GTerm.eval, ITerm.eval, hτf, Dom.toInt]
          rw [List.forall_mem_cons, List.map_cons, hvar, ht_cmp2, hvar,
            p2f_eval_fresh M.fc iv t1 _ ha (fun _ => hv1) _ (fun g hg hx => hft g hg (mem_ext.mpr (Or.inl hx))) hτall,
            p2f_eval_fresh M.fc iv t2 _ hb (fun _ => hv2) _ (fun g hg hx => hft g hg (mem_ext.mpr (Or.inr hx))) hτall]
          exact and_imp.symm
      · rw [if_neg hsec] at h
        cases h

theorem naturalHeadIntervals_nil (iv : List String) : ∀ args : List Term,
    naturalHeadIntervals iv args [] = [] := by
  intro args
  induction args with
  | nil => rfl
  | cons t rest ih =>
    simp only [naturalHeadIntervals]
    split <;> exact ih

theorem naturalHeadIntervals_worldfree (M : HTI) (iv : List String) (τ : Asg) (w w' : World) :
    ∀ (args : List Term) (fresh : List String), ∀ F ∈ naturalHeadIntervals iv args fresh,
      (ht M F w τ ↔ ht M F w' τ) := by
  intro args
  induction args with
  | nil => intro fresh F hF; cases hF
  | cons t rest ih =>
    intro fresh F hF
    simp only [naturalHeadIntervals] at hF
    split at hF
    · split at hF
      · split at hF
        · rcases List.mem_cons.mp hF with rfl | hF
          · exact (ht_cmp2 ..).trans (ht_cmp2 ..).symm
          · exact ih _ F hF
        · exact ih _ F hF
      · exact ih _ F hF
    · exact ih _ F hF

def HeadFreshOK (a : Asp.Atom) : Prop :=
  (freshVarsForHeadAtom a).Nodup ∧ ∀ f ∈ freshVarsForHeadAtom a, ∀ t ∈ a.args, f ∉ t.vars

/-- the choice `p ∨ ¬p` is the atom under the premise that it holds at `there`, as in `headSat_iff` -/
theorem ht_headConclusion (M : HTI) (w : World) (τ : Asg) (choice : Bool) (p : String) (ts : List GTerm) :
    ht M (if choice then .bin .or (.atomic (.atom ⟨p, ts⟩)) (.not (.atomic (.atom ⟨p, ts⟩)))
      else .atomic (.atom ⟨p, ts⟩)) w τ ↔
      ((choice = true → M.t p (ts.map (GTerm.eval M.fc τ))) → M.at w p (ts.map (GTerm.eval M.fc τ))) := by
  cases choice
  · exact ⟨fun h _ => h, fun h => h fun e => nomatch e⟩
  · refine ⟨fun h ht => h.resolve_right (not_not_intro (ht rfl)), fun h => ?_⟩
    by_cases ht : M.t p (ts.map (GTerm.eval M.fc τ))
    · exact Or.inl (h fun _ => ht)
    · exact Or.inr ht

theorem naturalHead_sem (M : HTI) (hs : M.Sub) (w : World) (ρ : Asg) (iv : List String) (a : Asp.Atom)
    (choice : Bool) (H : Formula) (h : naturalHeadWith a iv choice = some H)
    (hiv : ∀ t ∈ a.args, isCompound t = true → ∀ x ∈ t.vars, x ∈ iv) (hfo : HeadFreshOK a) :
    ht M H w ρ ↔ headSat M w (σiv iv ρ) (if choice then .choice a else .basic a) := by
  unfold naturalHeadWith at h
  obtain ⟨ts, hts, h⟩ := Option.bind_eq_some_iff.mp h
  dsimp only at h
  -- the head of the reference semantics, in terms of the assignments of the fresh variables
  rw [headSat_iff, headTerms_sem M w iv a.args (freshVarsForHeadAtom a) ts ρ hts hiv hfo.2 hfo.1
    fun ds => (choice = true → M.t a.pred ds) → M.at w a.pred ds]
  split at h
  · -- no interval in the head
    rename_i hemp
    cases h
    rw [ht_headConclusion, List.isEmpty_iff.mp hemp, naturalHeadIntervals_nil]
    exact ⟨fun hc _ => hc, fun hh => hh fun _ h => nomatch h⟩
  · cases h
    refine bindAll_congr (fun τ => ?_) ρ
    show (ht M (conjoin _) w τ → ht M _ w τ) ∧ (ht M (conjoin _) .there τ → ht M _ .there τ) ↔ _
    rw [ht_conjoin, ht_conjoin, ht_headConclusion, ht_headConclusion]
    have hwf := forall_congr' fun F => imp_congr_right fun hF =>
      naturalHeadIntervals_worldfree M iv τ .there w a.args (freshVarsForHeadAtom a) F hF
    rw [hwf]
    refine ⟨fun hh => hh.1, fun hh => ⟨hh, fun hI hc => ?_⟩⟩
    cases w with
    | there => exact hh hI hc
    | here =>
      cases choice with
      | false => exact hs _ _ (hh hI hc)
      | true => exact hc rfl

theorem mem_intVarsStepTerm (acc : List String) (t : Term) (x : String) :
    x ∈ intVarsStepTerm acc t ↔ x ∈ acc ∨ (isCompound t = true ∧ x ∈ t.vars) := by
  cases t with
  | pre _ | var _ => exact ⟨Or.inl, fun h => h.elim id fun h => nomatch h.1⟩
  | neg a => exact mem_ext.trans (or_congr_right ⟨fun h => ⟨rfl, h⟩, fun h => h.2⟩)
  | bin op l r =>
    rw [intVarsStepTerm, mem_ext, mem_ext, or_assoc]
    exact or_congr_right ⟨fun h => ⟨rfl, mem_ext.mpr h⟩, fun h => mem_ext.mp h.2⟩

def IntervalEq (f : BodyAtom) (x : String) : Prop :=
  match f with
  | .cmp .eq l rhs => regSecond rhs = true ∧ x ∈ l.vars
  | _ => False

theorem mem_intVarsStepBody (acc : List String) (f : BodyAtom) (x : String) :
    x ∈ intVarsStepBody acc f ↔ x ∈ acc ∨ IntervalEq f x := by
  cases f with
  | lit l => exact ⟨Or.inl, fun h => h.elim id False.elim⟩
  | cmp rel l rhs =>
    cases rel with
    | eq =>
      show x ∈ (if regSecond rhs then ext acc l.vars else acc) ↔ x ∈ acc ∨ (regSecond rhs = true ∧ _)
      by_cases hreg : regSecond rhs = true
      · rw [if_pos hreg]
        exact mem_ext.trans (or_congr_right ⟨fun h => ⟨hreg, h⟩, fun h => h.2⟩)
      · rw [if_neg hreg]
        exact ⟨Or.inl, fun h => h.elim id fun h => absurd h.1 hreg⟩
    | _ => exact ⟨Or.inl, fun h => h.elim id False.elim⟩

theorem mem_intVariables (r : Rule) (x : String) :
    x ∈ intVariables r ↔
      (∃ t ∈ r.terms, isCompound t = true ∧ x ∈ t.vars) ∨ ∃ f ∈ r.body, IntervalEq f x := by
  unfold intVariables
  rw [mem_foldl_of_step mem_intVarsStepBody, mem_foldl_of_step mem_intVarsStepTerm]
  exact or_congr_left (or_iff_right List.not_mem_nil)

theorem mem_rule_terms (r : Rule) (t : Term) :
    t ∈ r.terms ↔ t ∈ r.head.terms.getD [] ∨ ∃ f ∈ r.body, t ∈ f.terms := by
  unfold Rule.terms bodyTerms
  rw [mem_ext, mem_foldl_ins, mem_foldl_ext]
  simp

def WSAsg (ρ : Asg) : Prop := ∀ v : Var, (ρ v).inSort v.sort

theorem ht_universalClosure (M : HTI) (G : Formula) (w : World) (ρ : Asg) :
    ht M G.universalClosure w ρ ↔ ∀ τ, WSAsg τ → ht M G w τ := by
  have hq : ht M G.universalClosure w ρ ↔ bindAll G.fv (ht M G w) ρ := by
    unfold Formula.universalClosure
    rw [ht_quantify]; rfl
  refine hq.trans ((bindAll_closed (fun τ τ' h => ht_agree M G w τ τ' fun v hv => h v (Formula.mem_fv.mpr hv))
    ρ).trans ⟨fun h τ hτ => h τ fun v _ => hτ v, fun h τ hτ => ?_⟩)
  -- outside the free variables any well-sorted values will do
  refine (ht_agree M G w (fun v => if v ∈ G.fv then τ v else v.sort.default) τ fun v hv =>
    if_pos (Formula.mem_fv.mpr hv)).mp (h _ fun v => ?_)
  by_cases hv : v ∈ G.fv
  · simp only [if_pos hv]; exact hτ v hv
  · simp only [if_neg hv]; exact Srt.default_inSort _

theorem valsList_mem {σ : Subst} : ∀ {args : List Term} {ds : List Dom}, valsList σ args ds →
    ∀ t ∈ args, ∃ d, vals σ t d := by
  intro args
  induction args with
  | nil => intro _ _ t ht; cases ht
  | cons a as ih =>
    intro ds h t ht
    cases ds with
    | nil => exact h.elim
    | cons d ds => exact (List.mem_cons.mp ht).elim (fun e => ⟨d, e ▸ h.1⟩) (ih h.2 t)

/-- a head with a term that has no value has no value tuple, hence holds -/
theorem headSat_vacuous (M : HTI) (w : World) {σ : Subst} {h : Head} {t : Term}
    (ht : t ∈ h.terms.getD []) (hno : ∀ d, ¬ vals σ t d) : headSat M w σ h := by
  have hv : ∀ {a : Asp.Atom} {ds}, t ∈ a.args → ¬ valsList σ a.args ds := fun hta hv =>
    have ⟨d, hd⟩ := valsList_mem hv t hta
    hno d hd
  cases h with
  | falsity => cases ht
  | basic a => exact fun ds h => absurd h (hv ht)
  | choice a => exact fun ds h => absurd h (hv ht)

theorem naturalHeadAny_sem (M : HTI) (hs : M.Sub) (w : World) (ρ : Asg) (iv : List String) (h : Head)
    (H : Formula) (hH : naturalHead h iv = some H)
    (hiv : ∀ t ∈ h.terms.getD [], isCompound t = true → ∀ x ∈ t.vars, x ∈ iv)
    (hfo : ∀ a, (h = .basic a ∨ h = .choice a) → HeadFreshOK a) :
    ht M H w ρ ↔ headSat M w (σiv iv ρ) h := by
  cases h with
  | falsity => cases hH; exact Iff.rfl
  | basic a => exact naturalHead_sem M hs w ρ iv a false H hH hiv (hfo a (Or.inl rfl))
  | choice a => exact naturalHead_sem M hs w ρ iv a true H hH hiv (hfo a (Or.inr rfl))

def RuleInst (M : HTI) (w : World) (r : Rule) (σ : Subst) : Prop :=
  (bodySat M w σ r.body → headSat M w σ r.head) ∧
  (bodySat M .there σ r.body → headSat M .there σ r.head)

/-- the body has no value for the term the variable occurs in, or the head has no value tuple -/
theorem ruleInst_vacuous (M : HTI) (w : World) (r : Rule) (σ : Subst) (x : String)
    (hx : x ∈ intVariables r) (hn : ¬ IsInt (σ x)) : RuleInst M w r σ := by
  have body_false : ∀ f ∈ r.body, (∀ w', ¬ bodyAtomSat M w' σ f) → RuleInst M w r σ :=
    fun f hf hfalse =>
      ⟨fun hb => absurd (hb f hf) (hfalse w), fun hb => absurd (hb f hf) (hfalse .there)⟩
  rcases (mem_intVariables r x).mp hx with ⟨t, ht, hc, hxt⟩ | ⟨f, hf, hxf⟩
  · have hno : ∀ d, ¬ vals σ t d := fun d hd => hn (compound_vals_int t hc d hd x hxt)
    rcases (mem_rule_terms r t).mp ht with ht | ⟨f, hf, htf⟩
    · exact ⟨fun _ => headSat_vacuous M w ht hno, fun _ => headSat_vacuous M .there ht hno⟩
    · refine body_false f hf fun w' hsat => ?_
      rw [mem_bodyAtom_terms] at htf
      cases f with
      | lit l =>
        obtain ⟨ds, hv, _⟩ := (bodyAtomSat_lit M w' σ l.sign l.atom).mp hsat
        obtain ⟨d, hd⟩ := valsList_mem hv t htf
        exact hno d hd
      | cmp rel l rhs =>
        obtain ⟨a, b, ha, hb, _⟩ := hsat
        rcases htf with rfl | rfl
        · exact hno a ha
        · exact hno b hb
  · refine body_false f hf fun w' hsat => ?_
    cases f with
    | lit l => exact hxf.elim
    | cmp rel l rhs =>
      cases rel with
      | eq =>
        obtain ⟨t2, t3, rfl, _⟩ := regSecond_form hxf.1
        obtain ⟨a, b, ha, ⟨_, _, _, _, k, _, _, hb⟩, hab⟩ := hsat
        exact hn (vals_int_vars l k (hb ▸ hab ▸ ha) x hxf.2)
      | _ => exact hxf.elim

theorem naturalRule_sem (M : HTI) (hs : M.Sub) (w : World) (r : Rule) (F : Formula)
    (h : naturalRule r = some F)
    (hfo : ∀ a, (r.head = .basic a ∨ r.head = .choice a) → HeadFreshOK a) (ρ : Asg) :
    ht M F w ρ ↔ ruleSat M w r := by
  unfold naturalRule at h
  simp only [Option.bind_eq_bind, Option.bind_eq_some_iff, Option.some.injEq] at h
  obtain ⟨H, hH, B, hB, rfl⟩ := h
  -- coverage of the terms by `int_variables`
  have hcov : ∀ t ∈ r.terms, isCompound t = true → ∀ x ∈ t.vars, x ∈ intVariables r := fun t ht hc x hx =>
    (mem_intVariables r x).mpr (Or.inl ⟨t, ht, hc, hx⟩)
  have hbodycov : ∀ f ∈ r.body, AtomCovered (intVariables r) f := fun f hf t ht =>
    hcov t ((mem_rule_terms r t).mpr (Or.inr ⟨f, hf, ht⟩))
  have hbody : ∀ w' τ, ht M B w' τ ↔ bodySat M w' (σiv (intVariables r) τ) r.body := fun w' τ =>
    naturalBody_sem M w' τ _ r.body B hB hbodycov
  have hhead : ∀ w' τ, ht M H w' τ ↔ headSat M w' (σiv (intVariables r) τ) r.head := fun w' τ =>
    naturalHeadAny_sem M hs w' τ _ r.head H hH
      (fun t ht => hcov t ((mem_rule_terms r t).mpr (Or.inl ht))) hfo
  rw [ht_universalClosure]
  have hinst : ∀ τ, ht M (.bin .imp B H) w τ ↔ RuleInst M w r (σiv (intVariables r) τ) := by
    intro τ
    simp only [ht, RuleInst, hbody, hhead]
  unfold ruleSat
  constructor
  · intro hall σ
    by_cases hint : ∀ x ∈ intVariables r, IsInt (σ x)
    · -- a well-sorted assignment standing for σ
      let τ : Asg := fun v =>
        match v.sort with
        | .general => σ v.name
        | .integer => .num (σ v.name).toInt
        | .symbol => .sym ""
      have hτ : WSAsg τ := by
        intro v; obtain ⟨n, s⟩ := v; cases s <;> simp [τ, Dom.inSort]
      have hσ : σiv (intVariables r) τ = σ := by
        funext x
        unfold σiv
        split
        · rename_i hx
          obtain ⟨k, hk⟩ := hint x hx
          simp [τ, hk, Dom.toInt]
        · rfl
      have := (hinst τ).mp (hall τ hτ)
      rw [hσ] at this
      exact this
    · obtain ⟨x, hx⟩ := Classical.not_forall.mp hint
      obtain ⟨hx, hni⟩ := Classical.not_imp.mp hx
      exact ruleInst_vacuous M w r σ x hx hni
  · intro hall τ _
    exact (hinst τ).mpr (hall _)

end Anthem
