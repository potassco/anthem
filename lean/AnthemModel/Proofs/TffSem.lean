/-
  C06: the TFF tree of a formula prints to exactly the text model (`print_tr`) and has, in the
  standard structure, exactly the formula's classical meaning (`tr_sem`).
-/
import AnthemModel.Semantics.Tff
import AnthemModel.Proofs.Agree
namespace Anthem

theorem toString_toNat {n : Int} (h : ¬ n < 0) : toString n.toNat = toString n := by
  cases n with
  | ofNat m => rfl
  | negSucc m => exact absurd (Int.negSucc_lt_zero m) h

theorem trI_print (t : ITerm) : (trI t).print = tptpI t := by
  induction t with
  | num n =>
    rw [trI, tptpI]
    split
    · rfl
    · exact toString_toNat ‹_›
  | var v => rfl
  | fc c => rfl
  | neg t ih => exact congrArg (fun s => "$uminus(" ++ s ++ ")") ih
  | bin op l r ihl ihr =>
    show _ ++ "(" ++ (trI l).print ++ ", " ++ (trI r).print ++ ")" = _
    rw [ihl, ihr]; cases op <;> rfl

theorem trS_print (t : STerm) : (trS t).print = tptpS t := by
  cases t <;> rfl

theorem trG_print (t : GTerm) : (trG t).print = tptpG t := by
  cases t with
  | inf | sup | fc _ | var _ => rfl
  | int t => simp only [trG, tptpG, TGen.print, trI_print]
  | symb t => simp only [trG, tptpG, TGen.print, trS_print]

/-- Case analysis along `trIndividual` and `tptpIndividual`, which split alike: two integer terms,
    two symbolic terms under `=`/`!=`, and otherwise the comparison over `general`. -/
theorem trIndividual_ind (r : Rel) {motive : GTerm → GTerm → TAtom → Prop}
    (int : ∀ a b, motive (.int a) (.int b) (.relI r (trI a) (trI b)))
    (symb : ∀ a b, r = .eq ∨ r = .ne → motive (.symb a) (.symb b) (.eqS r (trS a) (trS b)))
    (gen : ∀ l rhs, tptpIndividual l r rhs =
        (if r = .eq ∨ r = .ne then tptpG l ++ " " ++ r.reprGeneral ++ " " ++ tptpG rhs
         else r.reprGeneral ++ "(" ++ tptpG l ++ ", " ++ tptpG rhs ++ ")") →
      motive l rhs (.relG r (trG l) (trG rhs))) :
    ∀ l rhs, motive l rhs (trIndividual l r rhs) := by
  intro l rhs
  cases l with
  | int a =>
    cases rhs with
    | int b => exact int a b
    | inf | sup | fc _ | var _ | symb _ => exact gen _ _ rfl
  | symb a =>
    cases rhs with
    | symb b =>
      by_cases h : r = .eq ∨ r = .ne
      · simp only [trIndividual, h, if_true]; exact symb a b h
      · simp only [trIndividual, h, if_false]
        exact gen _ _ (by simp only [tptpIndividual, h, if_false])
    | inf | sup | fc _ | var _ | int _ => exact gen _ _ rfl
  | inf | sup | fc _ | var _ => exact gen _ _ rfl

theorem trIndividual_print (l : GTerm) (r : Rel) (rhs : GTerm) :
    (trIndividual l r rhs).print = tptpIndividual l r rhs := by
  refine trIndividual_ind r (motive := fun l rhs a => a.print = tptpIndividual l r rhs) ?_ ?_ ?_ l rhs
  · intro a b; simp only [tptpIndividual, TAtom.print, trI_print]
  · intro a b h; simp only [tptpIndividual, h, if_true, TAtom.print, trS_print]
  · intro l rhs h; simp only [h, TAtom.print, trG_print]

theorem individuals_length (t : GTerm) (gs : List Guard) : (individuals t gs).length = gs.length := by
  induction gs generalizing t with
  | nil => rfl
  | cons g gs ih => simp [individuals, ih]

theorem trAtomic_print (a : AtomicF) :
    " & ".intercalate ((trAtomic a).map TAtom.print) = tptpAtomic a := by
  cases a with
  | tru => rfl
  | fls => rfl
  | atom a =>
    show " & ".intercalate [TAtom.print (.pred a.pred (a.args.map trG))] = tptpAtom a
    rw [String.intercalate_singleton, TAtom.print, tptpAtom, List.map_map,
      show TGen.print ∘ trG = tptpG from funext trG_print, List.isEmpty_map]
  | cmp t gs =>
    rw [trAtomic, tptpAtomic, List.map_map]
    exact congrArg _ (List.map_congr_left fun ⟨l, r, rhs⟩ _ => trIndividual_print l r rhs)

theorem tr_mandatory (F : Formula) : (tr F).mandatory = tptpMandatory F := by
  cases F with
  | atomic a =>
    cases a with
    | tru | fls | atom _ => rfl
    | cmp t gs => exact congrArg (fun n => decide (n > 1)) ((List.length_map _).trans (individuals_length t gs))
  | not _ | bin _ _ _ | quant _ _ _ => rfl

theorem tr_prec (F : Formula) : (tr F).prec = tptpPrec F := by
  cases F <;> rfl

theorem print_tr (F : Formula) : (tr F).print = tptpFormula F := by
  induction F with
  | atomic a => simp only [tr, TForm.print, tptpFormula]; exact trAtomic_print a
  | not f ih => simp only [tr, TForm.print, tptpFormula, ih, tr_mandatory, tr_prec]
  | bin c l r ihl ihr => simp only [tr, TForm.print, tptpFormula, ihl, ihr, tr_mandatory, tr_prec]
  | quant q vs f ih => simp only [tr, TForm.print, tptpFormula, ih]

theorem trI_eval (I : Interp) (ρ : Asg) (t : ITerm) :
    (trI t).eval (stdStruct I) (stdAsg I ρ) = t.eval I.fc ρ := by
  induction t with
  | num n =>
    by_cases h : n < 0
    · simp only [trI, h, if_true, TInt.eval, ITerm.eval]
      rw [Int.ofNat_natAbs_of_nonpos (Int.le_of_lt h), Int.neg_neg]
    · simp only [trI, h, if_false, TInt.eval, ITerm.eval]
      exact Int.toNat_of_nonneg (Int.not_lt.mp h)
  | var v => rfl
  | fc c => rfl
  | neg t ih => simp only [trI, TInt.eval, ITerm.eval, ih]
  | bin op l r ihl ihr => simp only [trI, TInt.eval, ITerm.eval, ihl, ihr]

theorem trS_eval (I : Interp) (ρ : Asg) (t : STerm) :
    (trS t).eval (stdStruct I) (stdAsg I ρ) = t.eval I.fc ρ := by
  cases t <;> rfl

theorem trG_eval (I : Interp) (ρ : Asg) (t : GTerm) :
    (trG t).eval (stdStruct I) (stdAsg I ρ) = t.eval I.fc ρ := by
  cases t with
  | inf | sup | fc _ | var _ => rfl
  | int t => exact congrArg Dom.num (trI_eval I ρ t)
  | symb t => exact congrArg Dom.sym (trS_eval I ρ t)

theorem holds_num (r : Rel) (a b : Int) : r.holds (.num a) (.num b) ↔ r.holdsInt a b := by
  cases r <;> simp only [Rel.holds, Rel.holdsInt, Dom.lt, Dom.le, Dom.num.injEq, Int.not_le, ne_eq]

theorem trIndividual_sat (I : Interp) (ρ : Asg) (l : GTerm) (r : Rel) (rhs : GTerm) :
    (trIndividual l r rhs).sat (stdStruct I) (stdAsg I ρ) ↔ r.holds (l.eval I.fc ρ) (rhs.eval I.fc ρ) := by
  refine trIndividual_ind r (motive := fun l rhs a =>
    a.sat (stdStruct I) (stdAsg I ρ) ↔ r.holds (l.eval I.fc ρ) (rhs.eval I.fc ρ)) ?_ ?_ ?_ l rhs
  · intro a b
    simp only [TAtom.sat, trI_eval, GTerm.eval]
    exact (holds_num r _ _).symm
  · rintro a b (rfl | rfl)
    · simp only [TAtom.sat, trS_eval, GTerm.eval, Rel.holds, Dom.sym.injEq]; exact Iff.rfl
    · simp only [TAtom.sat, trS_eval, GTerm.eval, Rel.holds, Dom.sym.injEq, ne_eq]; exact Iff.rfl
  · intro l rhs _
    rw [← trG_eval, ← trG_eval]
    cases r <;> exact Iff.rfl

theorem chain_sat (I : Interp) (ρ : Asg) : ∀ (gs : List Guard) (t : GTerm),
    (∀ a ∈ (individuals t gs).map (fun (p : GTerm × Rel × GTerm) => trIndividual p.1 p.2.1 p.2.2),
        a.sat (stdStruct I) (stdAsg I ρ)) ↔
      cmpChain I.fc ρ (t.eval I.fc ρ) gs := by
  intro gs
  induction gs with
  | nil => intro t; simp [individuals, cmpChain]
  | cons g gs ih =>
    intro t
    simp only [individuals, List.map_cons, List.forall_mem_cons, cmpChain]
    rw [ih g.term, trIndividual_sat]

theorem trAtomic_sat (I : Interp) (ρ : Asg) (a : AtomicF) :
    (∀ x ∈ trAtomic a, x.sat (stdStruct I) (stdAsg I ρ)) ↔ a.sat I.pred I.fc ρ := by
  cases a with
  | tru => exact List.forall_mem_singleton
  | fls => exact List.forall_mem_singleton
  | atom a =>
    refine List.forall_mem_singleton.trans (iff_of_eq (congrArg (I.pred a.pred) ?_))
    exact List.map_map.trans (List.map_congr_left fun t _ => trG_eval I ρ t)
  | cmp t gs => exact chain_sat I ρ gs t

theorem Dom.exists_integer {p : Dom → Prop} : (∃ d, Dom.inSort .integer d ∧ p d) ↔ ∃ n, p (.num n) :=
  ⟨fun ⟨d, hd, h⟩ => by obtain ⟨n, rfl⟩ := Dom.inSort_integer.mp hd; exact ⟨n, h⟩,
   fun ⟨n, h⟩ => ⟨.num n, trivial, h⟩⟩

theorem Dom.exists_symbol {p : Dom → Prop} : (∃ d, Dom.inSort .symbol d ∧ p d) ↔ ∃ s, p (.sym s) :=
  ⟨fun ⟨d, hd, h⟩ => by obtain ⟨s, rfl⟩ := Dom.inSort_symbol.mp hd; exact ⟨s, h⟩,
   fun ⟨s, h⟩ => ⟨.sym s, trivial, h⟩⟩

theorem Asg.set_mk (ρ : Asg) (x y : String) (s s' : Srt) (d : Dom) :
    ρ.set ⟨x, s⟩ d ⟨y, s'⟩ = if y = x ∧ s' = s then d else ρ ⟨y, s'⟩ := by
  simp only [Asg.set, Var.mk.injEq]

theorem stdAsg_set_general (I : Interp) (ρ : Asg) (x : String) (d : Dom) :
    stdAsg I (ρ.set ⟨x, .general⟩ d) = (stdAsg I ρ).setG x d := by
  simp only [stdAsg, TAsg.setG, Asg.set_mk, reduceCtorEq, and_false, and_true, if_false]
  rfl

theorem stdAsg_set_integer (I : Interp) (ρ : Asg) (x : String) (n : Int) :
    stdAsg I (ρ.set ⟨x, .integer⟩ (.num n)) = (stdAsg I ρ).setI x n := by
  simp only [stdAsg, TAsg.setI, Asg.set_mk, reduceCtorEq, and_false, and_true, if_false,
    apply_ite Dom.toInt]
  rfl

theorem stdAsg_set_symbol (I : Interp) (ρ : Asg) (x : String) (s : String) :
    stdAsg I (ρ.set ⟨x, .symbol⟩ (.sym s)) = (stdAsg I ρ).setS x s := by
  simp only [stdAsg, TAsg.setS, Asg.set_mk, reduceCtorEq, and_false, and_true, if_false,
    apply_ite Dom.toStr]
  rfl

theorem tbindAll_std (I : Interp) (vs : List Var) (P : Asg → Prop) (Q : TAsg (stdStruct I) → Prop)
    (h : ∀ ρ, Q (stdAsg I ρ) ↔ P ρ) : ∀ ρ, tbindAll (stdStruct I) vs Q (stdAsg I ρ) ↔ bindAll vs P ρ := by
  induction vs with
  | nil => exact h
  | cons v vs ih =>
    intro ρ
    obtain ⟨x, s⟩ := v
    cases s with
    | general =>
      simp only [tbindAll, bindAll, Dom.inSort, true_imp_iff, ← ih, stdAsg_set_general]; exact Iff.rfl
    | integer =>
      simp only [tbindAll, bindAll, Dom.inSort_integer, forall_exists_index, forall_eq_apply_imp_iff, ← ih,
        stdAsg_set_integer]
    | symbol =>
      simp only [tbindAll, bindAll, Dom.inSort_symbol, forall_exists_index, forall_eq_apply_imp_iff, ← ih,
        stdAsg_set_symbol]
      exact Iff.rfl

theorem tbindEx_std (I : Interp) (vs : List Var) (P : Asg → Prop) (Q : TAsg (stdStruct I) → Prop)
    (h : ∀ ρ, Q (stdAsg I ρ) ↔ P ρ) : ∀ ρ, tbindEx (stdStruct I) vs Q (stdAsg I ρ) ↔ bindEx vs P ρ := by
  induction vs with
  | nil => exact h
  | cons v vs ih =>
    intro ρ
    obtain ⟨x, s⟩ := v
    cases s with
    | general =>
      simp only [tbindEx, bindEx, Dom.inSort, true_and, ← ih, stdAsg_set_general]; exact Iff.rfl
    | integer =>
      simp only [tbindEx, bindEx, Dom.exists_integer, ← ih, stdAsg_set_integer]
    | symbol =>
      simp only [tbindEx, bindEx, Dom.exists_symbol, ← ih, stdAsg_set_symbol]; exact Iff.rfl

theorem tr_sem (I : Interp) (F : Formula) : ∀ ρ : Asg,
    (tr F).sat (stdStruct I) (stdAsg I ρ) ↔ sat I F ρ := by
  induction F with
  | atomic a => exact fun ρ => trAtomic_sat I ρ a
  | not f ih => exact fun ρ => not_congr (ih ρ)
  | bin c l r ihl ihr =>
    intro ρ
    cases c
    · exact and_congr (ihl ρ) (ihr ρ)
    · exact or_congr (ihl ρ) (ihr ρ)
    · exact imp_congr (ihl ρ) (ihr ρ)
    · exact imp_congr (ihr ρ) (ihl ρ)
    · exact iff_congr (ihl ρ) (ihr ρ)
  | quant q vs f ih =>
    intro ρ
    cases q with
    | all => exact tbindAll_std I vs _ _ ih ρ
    | ex => exact tbindEx_std I vs _ _ ih ρ

end Anthem
