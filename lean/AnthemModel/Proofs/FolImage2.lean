/-
  The image of the target-language parser: a prefix is a quantifier with well-formed variables or
  a negation and consumes input, so `prefix*` stops only where no prefix starts.
-/
import AnthemModel.Proofs.FolImage
import AnthemModel.Proofs.FolFormulaRT
namespace Anthem.Fol
open Anthem.Asp (isWs skip skipAux stripPrefix isIdChar SymName NoId Solid StartsSolid takeWhile_all
  skip_of_startsSolid)

theorem variablesL_some : ∀ (f : Nat) (cs : List Char),
    (∀ v ∈ (variablesL f cs).1, Var.WF v) ∧ (variablesL f cs).2.length ≤ cs.length ∧
      ((variablesL f cs).1 ≠ [] → (variablesL f cs).2.length < cs.length) := by
  intro f
  induction f with
  | zero => exact fun cs => ⟨fun _ hv => (nomatch hv), Nat.le_refl _, fun h => absurd rfl h⟩
  | succ f ih =>
    intro cs
    rw [variablesL]
    split
    · rename_i v r hv
      have ⟨hwf, hlt⟩ := lexVariable_some hv
      have hlt' : (variablesL f r).2.length < cs.length :=
        Nat.lt_of_le_of_lt (ih r).2.1 (Nat.lt_of_lt_of_le hlt (skip_length_le cs))
      exact ⟨fun u hu => (List.mem_cons.mp hu).elim (fun e => e ▸ hwf) ((ih r).1 u), Nat.le_of_lt hlt', fun _ => hlt'⟩
    · exact ⟨fun _ hv => (nomatch hv), Nat.le_refl _, fun h => absurd rfl h⟩

/-- what the Pratt parser for formulas is fed: safe primaries, quantifiers with variables -/
def FTok.Img : FTok → Prop
  | .prim g => Formula.Safe g
  | .pquant _ vs => vs ≠ [] ∧ ∀ v ∈ vs, Var.WF v
  | _ => True

def FTokImg (ts : List FTok) : Prop := ∀ t ∈ ts, FTok.Img t

theorem FTokImg.tail {a : FTok} {ts : List FTok} (h : FTokImg (a :: ts)) : FTokImg ts :=
  fun t ht => h t (List.mem_cons_of_mem _ ht)

theorem FTokImg.append {a b : List FTok} (ha : FTokImg a) (hb : FTokImg b) : FTokImg (a ++ b) :=
  fun t ht => (List.mem_append.mp ht).elim (ha t) (hb t)

theorem FTokImg.cons {a : FTok} {ts : List FTok} (ha : FTok.Img a) (h : FTokImg ts) : FTokImg (a :: ts) :=
  fun t ht => (List.mem_cons.mp ht).elim (fun e => e ▸ ha) (h t)

theorem quant_some (q : Quant) (r : List Char) {t : FTok} {r' : List Char}
    (h : (match variablesL (r.length + 1) r with
      | ([], _) => none
      | (vs, r') => some (FTok.pquant q vs, r')) = some (t, r')) : FTok.Img t ∧ r'.length < r.length := by
  have hv := variablesL_some (r.length + 1) r
  split at h
  · cases h
  · rename_i vs r'' hne heq
    cases h
    rw [heq] at hv
    exact ⟨⟨hne, hv.1⟩, hv.2.2 hne⟩

theorem stripPrefix_le {p cs r : List Char} (h : stripPrefix p cs = some r) : r.length ≤ cs.length :=
  stripPrefix_length p cs r h ▸ Nat.le_add_left _ _

theorem prefixL_some {cs : List Char} {t : FTok} {r : List Char} (h : prefixL cs = some (t, r)) :
    FTok.Img t ∧ r.length < cs.length := by
  simp only [prefixL] at h
  split at h
  · rename_i x hx
    cases h
    split at hx
    · rename_i r1 hs
      split at hx
      · exact ⟨(quant_some .all r1 hx).1, Nat.lt_of_lt_of_le (quant_some .all r1 hx).2 (stripPrefix_le hs)⟩
      · cases hx
    · split at hx
      · rename_i r1 hs
        split at hx
        · exact ⟨(quant_some .ex r1 hx).1, Nat.lt_of_lt_of_le (quant_some .ex r1 hx).2 (stripPrefix_le hs)⟩
        · cases hx
      · cases hx
  · split at h
    · rename_i r1 hs
      split at h
      · cases h
        refine ⟨trivial, ?_⟩
        rw [stripPrefix_length _ _ _ hs]
        exact Nat.lt_add_of_pos_left (List.length_pos_iff.mpr (by decide))
      · cases h
    · cases h

theorem prefixL_none_not {cs r : List Char} (h : prefixL cs = none) (hs : stripPrefix "not".toList cs = some r) :
    notWordNext r = false := by
  unfold prefixL at h
  simp only at h
  split at h
  · cases h
  · rw [hs] at h
    simp only at h
    split at h
    · cases h
    · rename_i hn; simpa using hn

theorem prefixesL_img : ∀ (n : Nat) (first : Bool) (cs : List Char), FTokImg (prefixesL n first cs).1 := by
  intro n
  induction n with
  | zero => exact fun _ _ _ ht => nomatch ht
  | succ n ih =>
    intro first cs
    rw [prefixesL]
    split
    · rename_i t r hp
      exact FTokImg.cons (prefixL_some hp).1 (ih false r)
    · exact fun _ ht => nomatch ht

theorem prefixesL_stop : ∀ (n : Nat) (first : Bool) (cs : List Char), cs.length < n → (first = true → skip cs = cs) →
    prefixL (skip (prefixesL n first cs).2) = none := by
  intro n
  induction n with
  | zero => exact fun _ _ h => absurd h (Nat.not_lt_zero _)
  | succ n ih =>
    intro first cs hn hfirst
    rw [prefixesL]
    split
    · rename_i t r hp
      have hx : (if first = true then cs else skip cs).length ≤ cs.length := by
        cases first
        · exact skip_length_le cs
        · exact Nat.le_refl _
      exact ih false r (Nat.lt_of_lt_of_le (prefixL_some hp).2 (Nat.le_trans hx (Nat.le_of_lt_succ hn)))
        (fun e => nomatch e)
    · rename_i hp
      cases first with
      | true => rw [hfirst rfl]; exact hp
      | false => exact hp

theorem takeWhile_append_dropWhile (p : Char → Bool) (l : List Char) : l.takeWhile p ++ l.dropWhile p = l :=
  List.takeWhile_append_dropWhile

theorem ftailT_cases (f : Nat) (cs : List Char) :
    ftailT f cs = ([], cs) ∨ ∃ c r, lexConn (skip cs) = some (c, r) := by
  cases f with
  | zero => left; rfl
  | succ f =>
    rw [ftailT_succ]
    cases h : lexConn (skip cs) with
    | none => left; rfl
    | some x => right; exact ⟨x.1, x.2, rfl⟩

theorem skip_dollar (x : List Char) : skip ('$' :: x) = '$' :: x :=
  Asp.skip_cons_solid x ⟨by decide, by decide⟩

theorem lexConn_dollar (r : List Char) : lexConn (skip ('$' :: r)) = none := by
  rw [skip_dollar]; rfl

end Anthem.Fol
