/-
  Round trip for general terms of the target language: the ordered choice
  `general_function_constant | integer_term | symbolic_term | general_variable | infimum | supremum`
  picks the alternative the term was printed from.
-/
import AnthemModel.Proofs.FolITermRT
namespace Anthem.Fol
open Anthem.Asp (isWs skip stripPrefix isIdChar isNonzeroDigit SymName NoId StopsAt Solid StartsSolid
  takeWhile_append_stop noId_cons skip_cons_solid skip_of_startsSolid lower_idChar lower_solid upper_solid
  parenLL parenLL_startsSolid lexInteger lexInteger_append intL_head digit_solid stripPrefix_head_ne)

def STerm.printL : STerm → List Char
  | .sym s => s.toList
  | .fc c => c.toList ++ ['$', 's']
  | .var v => v.toList ++ ['$', 's']

def GTerm.printL : GTerm → List Char
  | .inf => ['#', 'i', 'n', 'f']
  | .sup => ['#', 's', 'u', 'p']
  | .fc c => c.toList ++ ['$', 'g']
  | .var v => v.toList
  | .int t => ITerm.printL t
  | .symb t => STerm.printL t

theorem STerm.print_toList (t : STerm) : t.print.toList = STerm.printL t := by
  cases t <;> simp [STerm.print, STerm.printL, String.toList_append]

theorem GTerm.print_toList (t : GTerm) : t.print.toList = GTerm.printL t := by
  cases t with
  | inf => decide +kernel
  | sup => decide +kernel
  | fc c => simp [GTerm.print, GTerm.printL, String.toList_append]
  | var v => simp [GTerm.print, GTerm.printL]
  | int t => simp [GTerm.print, GTerm.printL, ITerm.print_toList]
  | symb t => simp [GTerm.print, GTerm.printL, STerm.print_toList]

def STerm.WF : STerm → Prop
  | .sym s => SymName s.toList
  | .fc c => SymName c.toList
  | .var v => UVName v.toList

def GTerm.WF : GTerm → Prop
  | .inf | .sup => True
  | .fc c => SymName c.toList
  | .var v => UVName v.toList
  | .int t => ITerm.WF t
  | .symb t => STerm.WF t

def GFollow (rest : List Char) : Prop := NoIdNE rest ∧ (∀ r, rest ≠ '$' :: r) ∧ ITailStop rest

def NameFollow (rest : List Char) : Prop := NoIdNE rest ∧ ∀ r, rest ≠ '$' :: r

theorem GFollow.nameFollow {rest : List Char} (h : GFollow rest) : NameFollow rest := ⟨h.1, h.2.1⟩

theorem nameFollow_cons {c : Char} (Y : List Char) (h : isIdChar c = false) (hd : c ≠ '$') : NameFollow (c :: Y) :=
  ⟨⟨c, Y, rfl, h⟩, fun _ e => hd (List.cons.inj e).1⟩

theorem lexFnConstG_iterm (t : ITerm) (ht : ITerm.WF t) (rest : List Char) :
    lexFnConst lexSortG (ITerm.printL t ++ rest) = none := by
  rcases ITerm.printL_head t ht rest with ⟨c, r, e, hc, _⟩ | ⟨l, Y, hl | hl, e⟩ <;> rw [e]
  · exact lexFnConst_none_of_symConst _ _
      (lexSymConst_none_of_head c r (opener_not_lower hc) (opener_ne hc (by decide)))
  · exact lexFnConst_miss_sort lexSortG 'i' l Y hl (lexSortWord_miss 'g' "eneral" 'i' Y (by decide))
  · exact lexFnConst_none_of_symConst _ _ (lexSymConst_uvName l _ hl)

theorem ioperand_gterm_nonint (t : GTerm) (ht : GTerm.WF t) (hni : ∀ it, t ≠ .int it) (Y : List Char)
    (hY : NameFollow Y) : ∀ f, ioperand f (GTerm.printL t ++ Y) = none := by
  obtain ⟨hne, hdollar⟩ := hY
  have hash : ∀ r, ∀ f, ioperand f ('#' :: r) = none := fun r =>
    ioperand_nonId '#' r (by decide) ⟨by decide, by decide⟩ (by decide) (by decide)
  have sorted : ∀ (l : List Char) (s : Char), SymName l → s ≠ 'i' → ∀ f, ioperand f (l ++ '$' :: s :: Y) = none :=
    fun l s hs hsi => ioperand_name (Or.inl hs) _
      (lexFnConst_miss_sort lexSortI s l Y hs (lexSortWord_miss 'i' "nteger" s Y hsi))
      (lexIntVar_none_of_uvar _ (lexUVar_symName _ _ hs))
  cases t with
  | int it => exact absurd rfl (hni it)
  | inf => exact hash _
  | sup => exact hash _
  | fc c =>
    rw [show GTerm.printL (.fc c) ++ Y = c.toList ++ '$' :: 'g' :: Y from List.append_assoc ..]
    exact sorted _ 'g' ht (by decide)
  | var v =>
    exact ioperand_name (Or.inr ht) _ (lexFnConst_none_of_symConst _ _ (lexSymConst_uvName _ _ ht))
      (lexVars_plain _ Y ht hne.noId hdollar).1
  | symb st =>
    cases st with
    | sym s =>
      exact ioperand_name (Or.inl ht) _ (lexFnConst_plain _ _ _ ht hne hdollar)
        (lexIntVar_none_of_uvar _ (lexUVar_symName _ _ ht))
    | fc c =>
      rw [show GTerm.printL (.symb (.fc c)) ++ Y = c.toList ++ '$' :: 's' :: Y from List.append_assoc ..]
      exact sorted _ 's' ht (by decide)
    | var v =>
      rw [show GTerm.printL (.symb (.var v)) ++ Y = v.toList ++ '$' :: 's' :: Y from List.append_assoc ..]
      exact ioperand_name (Or.inr ht) _ (lexFnConst_none_of_symConst _ _ (lexSymConst_uvName _ _ ht))
        (lexVars_sortS _ Y ht hne.noId).1

theorem gtermL_printL (g : GTerm) (hg : GTerm.WF g) (rest : List Char) (hr : GFollow rest) :
    gtermL (GTerm.printL g ++ rest) = some (g, rest) := by
  have hnoid := hr.1.noId
  by_cases hint : ∃ it, g = .int it
  · obtain ⟨t, rfl⟩ := hint
    have h1 := lexFnConstG_iterm t hg rest
    have h2 := itermL_printL t hg rest hnoid hr.2.2 (2 * (ITerm.printL t ++ rest).length + 1) (by omega)
    simp only [GTerm.printL, gtermL, h1, h2]
  -- every other term: the integer-term alternative fails
  have a2 : ∀ f, itermL f (GTerm.printL g ++ rest) = none :=
    itermL_of_ioperand_none _ (ioperand_gterm_nonint g hg (fun it e => hint ⟨it, e⟩) rest hr.nameFollow)
  obtain ⟨hne, hdollar, _⟩ := hr
  cases g with
  | int t => exact absurd ⟨t, rfl⟩ hint
  | fc c =>
    rw [show GTerm.printL (.fc c) ++ rest = c.toList ++ '$' :: 'g' :: rest from List.append_assoc ..]
    simp only [gtermL, lexFnConst_hit lexSortG 'g' c.toList rest hg (lexSortG_hit rest hnoid), String.ofList_toList]
  | symb st =>
    cases st with
    | sym s =>
      have hs : SymName s.toList := hg
      have a1 := fun sl => lexFnConst_plain sl _ _ hs hne hdollar
      simp only [GTerm.printL, STerm.printL] at a2 ⊢
      simp only [gtermL, a1, a2, stermL, lexSymConst_append s.toList rest hs hne, String.ofList_toList]
    | fc c =>
      have hs : SymName c.toList := hg
      rw [show GTerm.printL (.symb (.fc c)) ++ rest = c.toList ++ '$' :: 's' :: rest from List.append_assoc ..] at a2 ⊢
      simp only [gtermL, lexFnConst_miss_sort lexSortG 's' c.toList rest hs (lexSort_s rest hnoid).1, a2, stermL,
        lexFnConst_hit lexSortS 's' c.toList rest hs (lexSortS_hit rest hnoid), String.ofList_toList]
    | var v =>
      have hs : UVName v.toList := hg
      rw [show GTerm.printL (.symb (.var v)) ++ rest = v.toList ++ '$' :: 's' :: rest from List.append_assoc ..] at a2 ⊢
      have hsym : lexSymConst (v.toList ++ '$' :: 's' :: rest) = none := lexSymConst_uvName _ _ hs
      simp only [gtermL, lexFnConst_none_of_symConst _ _ hsym, a2, stermL, hsym, (lexVars_sortS _ rest hs hnoid).2,
        String.ofList_toList]
  | var v =>
    have hs : UVName v.toList := hg
    have hsym : lexSymConst (v.toList ++ rest) = none := lexSymConst_uvName _ _ hs
    obtain ⟨_, hsv, hgv⟩ := lexVars_plain _ rest hs hnoid hdollar
    simp only [GTerm.printL] at a2 ⊢
    simp only [gtermL, lexFnConst_none_of_symConst _ _ hsym, a2, stermL, hsym, hsv, hgv, String.ofList_toList]
  | inf =>
    have hsym := fun X => lexSymConst_nonId '#' X (by decide)
    have huv := fun X => lexUVar_nonId '#' X (by decide)
    simp only [GTerm.printL, List.cons_append, List.nil_append] at a2 ⊢
    simp only [gtermL, lexFnConst_none_of_symConst _ _ (hsym _), a2, stermL, hsym, lexSymVar, lexGenVar, huv]
    rfl
  | sup =>
    have hsym := fun X => lexSymConst_nonId '#' X (by decide)
    have huv := fun X => lexUVar_nonId '#' X (by decide)
    simp only [GTerm.printL, List.cons_append, List.nil_append] at a2 ⊢
    simp only [gtermL, lexFnConst_none_of_symConst _ _ (hsym _), a2, stermL, hsym, lexSymVar, lexGenVar, huv]
    rfl

theorem GTerm.printL_head (g : GTerm) (hg : GTerm.WF g) (X : List Char) :
    (∃ it, g = .int it) ∨ ((g = .inf ∨ g = .sup) ∧ ∃ r, GTerm.printL g ++ X = '#' :: r) ∨
      ∃ l Y, (SymName l ∨ UVName l) ∧ GTerm.printL g ++ X = l ++ Y := by
  cases g with
  | int t => exact Or.inl ⟨t, rfl⟩
  | inf => exact Or.inr (Or.inl ⟨Or.inl rfl, _, rfl⟩)
  | sup => exact Or.inr (Or.inl ⟨Or.inr rfl, _, rfl⟩)
  | fc c => exact Or.inr (Or.inr ⟨_, _, Or.inl hg, List.append_assoc ..⟩)
  | var v => exact Or.inr (Or.inr ⟨_, X, Or.inr hg, rfl⟩)
  | symb st =>
    cases st with
    | sym s => exact Or.inr (Or.inr ⟨_, X, Or.inl hg, rfl⟩)
    | fc c => exact Or.inr (Or.inr ⟨_, _, Or.inl hg, List.append_assoc ..⟩)
    | var v => exact Or.inr (Or.inr ⟨_, _, Or.inr hg, List.append_assoc ..⟩)

theorem GTerm.printL_startsSolid (g : GTerm) (hg : GTerm.WF g) : StartsSolid (GTerm.printL g) := by
  rw [← List.append_nil (GTerm.printL g)]
  rcases GTerm.printL_head g hg [] with ⟨t, rfl⟩ | ⟨_, r, e⟩ | ⟨l, Y, hl, e⟩
  · exact (ITerm.printL_startsSolid t hg).append _
  · exact ⟨'#', r, e, by decide, by decide⟩
  · obtain ⟨c, w, rfl, _, hs, _⟩ := name_head hl
    exact ⟨c, _, e, hs⟩

end Anthem.Fol
