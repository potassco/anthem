/-
  C02: what is needed to read the emitted external-equivalence problems: interpretations cut down to a
  signature and read through the renaming of private predicates; `control_translate`, `mkProblem`,
  `theory_translate` and the applicability checks, each characterised once.
-/
import AnthemModel.Proofs.CompletionSem
import AnthemModel.Proofs.StrongSem
import AnthemModel.Model.External
namespace Anthem
open Asp

theorem sat_congr_preds (fc : FcI) (T T' : PredI) : ∀ (F : Formula) (ρ : Asg),
    (∀ q ∈ F.preds, ∀ a : List Dom, a.length = q.arity → (T q.symbol a ↔ T' q.symbol a)) →
    (sat ⟨T, fc⟩ F ρ ↔ sat ⟨T', fc⟩ F ρ) := by
  intro F
  induction F with
  | atomic a =>
    intro ρ h
    cases a with
    | tru | fls | cmp _ _ => exact Iff.rfl
    | atom a =>
      simp only [sat, AtomicF.sat]
      exact h a.predicate (by simp [Formula.preds, AtomicF.preds]) _ (by simp [Anthem.Atom.predicate])
  | not f ih => intro ρ h; simp only [sat]; exact not_congr (ih ρ h)
  | bin c l r ihl ihr =>
    intro ρ h
    have hl := ihl ρ fun q hq => h q (by simp [Formula.preds, mem_ext, hq])
    have hr := ihr ρ fun q hq => h q (by simp [Formula.preds, mem_ext, hq])
    cases c <;> simp only [sat, hl, hr]
  | quant q vs f ih =>
    intro ρ h
    cases q
    · simp only [sat]; exact bindAll_congr (fun τ => ih τ h) ρ
    · simp only [sat]; exact bindEx_congr (fun τ => ih τ h) ρ

def restrictTo (sig : List Pred) (T : PredI) : PredI := fun q a => T q a ∧ (⟨q, a.length⟩ : Pred) ∈ sig

theorem sat_restrict (fc : FcI) (T : PredI) (sig : List Pred) (F : Formula) (ρ : Asg)
    (h : ∀ q ∈ F.preds, q ∈ sig) : sat ⟨restrictTo sig T, fc⟩ F ρ ↔ sat ⟨T, fc⟩ F ρ := by
  apply sat_congr_preds
  intro q hq a ha
  unfold restrictTo
  constructor
  · exact fun h' => h'.1
  · intro h'
    refine ⟨h', ?_⟩
    have : (⟨q.symbol, a.length⟩ : Pred) = q := by rw [ha]
    rw [this]; exact h q hq

theorem preds_cmp1 (l : GTerm) (r : Rel) (t : GTerm) : (cmp1 l r t).preds = [] := rfl

theorem mem_preds_disjoin {fs : List Formula} {q : Pred} : q ∈ (disjoin fs).preds ↔ ∃ f ∈ fs, q ∈ f.preds := by
  have hfold : ∀ (l : List Formula) (acc : Formula),
      q ∈ (l.foldl (fun acc e => Formula.bin .or acc e) acc).preds ↔ q ∈ acc.preds ∨ ∃ g ∈ l, q ∈ g.preds := by
    intro l
    induction l with
    | nil => intro acc; simp
    | cons e l ih =>
      intro acc
      simp only [List.foldl_cons, ih, Formula.preds, mem_ext, List.mem_cons, exists_eq_or_imp, or_assoc]
  cases fs with
  | nil => simp [disjoin, Formula.fls, Formula.preds, AtomicF.preds]
  | cons f fs => simp only [disjoin, hfold, List.mem_cons, exists_eq_or_imp]

theorem preds_quantify (f : Formula) (qt : Quant) (vs : List Var) : (f.quantify qt vs).preds = f.preds := by
  unfold Formula.quantify; split <;> rfl

theorem completeDefinition_preds (A : Anthem.Atom) (fs : List Formula) (q : Pred)
    (h : q ∈ (completeDefinition A fs).preds) : q = A.predicate ∨ ∃ f ∈ fs, q ∈ f.preds := by
  simp only [completeDefinition, preds_quantify, Formula.preds, mem_ext, AtomicF.preds, List.mem_singleton,
    mem_preds_disjoin, List.mem_map] at h
  rcases h with h | ⟨_, ⟨f, hf, rfl⟩, hq⟩
  · exact Or.inl h
  · exact Or.inr ⟨f, hf, by rwa [preds_quantify] at hq⟩

theorem completion_preds (P : Program) (ins : List Pred) (Γ : Theory)
    (hΓ : completion (tauStar P) ins = some Γ) : ∀ F ∈ Γ, ∀ q ∈ F.preds, q ∈ P.preds := by
  obtain ⟨Γ', hΓ', hmem⟩ := completion_tauStar P ins
  cases hΓ.symm.trans hΓ'
  have hhead : ∀ {r a ch}, r ∈ P → HeadOf r a ch → (tauHeadAtom a (chooseFreshGlobals P)).predicate ∈ P.preds :=
    fun hr hh => mem_program_preds.mpr ⟨_, hr, mem_rule_preds.mpr (Or.inl
      (by rw [tauHeadAtom_predicate _ _ (headOf_le_globals hr hh)]; exact headOf_predicate hh))⟩
  intro F hF q hq
  -- by the three kinds of formulas of `completion_tauStar`: constraint, definition, empty definition
  rcases (hmem F).mp hF with ⟨r, hr, _, rfl⟩ | ⟨e, he, _, rfl⟩ | ⟨p, hpm, _, _, rfl⟩
  · unfold Formula.universalClosure at hq
    simp only [preds_quantify, Formula.preds, mem_ext, Formula.fls, AtomicF.preds, List.not_mem_nil, or_false,
      tauBody_preds] at hq
    exact mem_program_preds.mpr ⟨r, hr, mem_rule_preds.mpr (Or.inr hq)⟩
  · rcases completeDefinition_preds e.1 e.2 q hq with rfl | ⟨f, hf, hqf⟩
    · obtain ⟨r, hr, a, ch, hh, hA⟩ := entry_head he
      exact hA ▸ hhead hr hh
    · obtain ⟨r, hr, a, ch, hh, rfl, _⟩ := (mem_comps_partialDef P _ f e.1).mp ((mem_entry he f).mp hf)
      rcases (tauRuleBody_preds ch a r _ q).mp hqf with hb | ⟨_, rfl⟩
      · exact mem_program_preds.mpr ⟨r, hr, mem_rule_preds.mpr (Or.inr hb)⟩
      · exact hhead hr hh
  · rcases completeDefinition_preds _ _ q hq with rfl | ⟨f, hf, _⟩
    · rw [atomFromPred_predicate]
      obtain ⟨F', hF', hp'⟩ := ((mem_foldl_ext _ _ _ _).mp hpm).resolve_left (List.not_mem_nil)
      obtain ⟨r, hr, rfl⟩ := List.mem_map.mp hF'
      exact mem_program_preds.mpr ⟨r, hr, (tauStarRule_preds r _ (by
        rw [(chooseFreshGlobals_spec P rfl).2.2]; exact arity_le_maxHeadArity P r hr) p).mp hp'⟩
    · cases hf

/-- `completion_tight` speaks of interpretations over the program's signature; an interpretation of an
    emitted problem is arbitrary, so it is cut down to that signature first (the completion mentions no
    other predicate: `completion_preds`) -/
theorem completion_stable (P : Program) (ins : List Pred) (htight : isTight P = true)
    (hins : ∀ q ∈ ins, q ∉ P.headPreds) (Γ : Theory)
    (hΓ : completion (tauStar P) ins = some Γ) (T : PredI) (fc : FcI) (ρ : Asg) :
    (∀ F ∈ Γ, sat ⟨T, fc⟩ F ρ) ↔ Stable P ins (restrictTo (ext P.preds ins) T) fc := by
  obtain ⟨Γ', h1, h2⟩ := completion_tight P ins htight rfl hins
  cases hΓ.symm.trans h1
  rw [← h2 (restrictTo (ext P.preds ins) T) fc ρ (fun q a h => h.2)]
  refine forall_congr' fun F => imp_congr_right fun hF => ?_
  exact (sat_restrict fc T _ F ρ fun q hq => mem_ext.mpr (Or.inl (completion_preds P ins Γ hΓ F hF q hq))).symm

/-- `T` read through the renaming of the program's private predicates: the extent of `q/n` is
    that of `q_e/n` where `clash` renames it (`sat_renamePreds`) -/
def renamedInterp (clash : List (Pred × String)) (T : PredI) : PredI :=
  fun q a => match lookupExt clash ⟨q, a.length⟩ with
    | some e => T (q ++ "_" ++ e) a
    | none => T q a

theorem sat_renamePreds (clash : List (Pred × String)) (T : PredI) (fc : FcI) : ∀ (F : Formula) (ρ : Asg),
    sat ⟨T, fc⟩ (F.renamePreds clash) ρ ↔ sat ⟨renamedInterp clash T, fc⟩ F ρ := by
  intro F
  induction F with
  | atomic a =>
    intro ρ
    cases a with
    | tru | fls | cmp _ _ => exact Iff.rfl
    | atom a =>
      simp only [Formula.renamePreds, renameAtom, sat, AtomicF.sat, renamedInterp, List.length_map,
        Atom.predicate]
      cases lookupExt clash ⟨a.pred, a.args.length⟩ <;> exact Iff.rfl
  | not f ih => intro ρ; simp only [Formula.renamePreds, sat, ih]
  | bin c l r ihl ihr => intro ρ; cases c <;> simp only [Formula.renamePreds, sat, ihl, ihr]
  | quant q vs f ih =>
    intro ρ
    cases q
    · simp only [Formula.renamePreds, sat]; exact bindAll_congr (fun τ => ih τ) ρ
    · simp only [Formula.renamePreds, sat]; exact bindEx_congr (fun τ => ih τ) ρ

theorem replacePlaceholders_nil : ∀ F : Formula, F.replacePlaceholders [] = F := by
  have hg : ∀ t : GTerm, t.replacePlaceholders [] = t := by
    intro t
    cases t with
    | symb st => cases st <;> rfl
    | inf | sup | fc _ | var _ | int _ => rfl
  intro F
  induction F with
  | atomic a =>
    cases a with
    | tru | fls => rfl
    | atom a => simp only [Formula.replacePlaceholders, AtomicF.replacePlaceholders, List.map_id'' hg]
    | cmp t gs =>
      simp only [Formula.replacePlaceholders, AtomicF.replacePlaceholders, hg, List.map_id'' (fun _ => rfl)]
  | not f ih => simp only [Formula.replacePlaceholders, ih]
  | bin c l r ihl ihr => simp only [Formula.replacePlaceholders, ihl, ihr]
  | quant q vs f ih => simp only [Formula.replacePlaceholders, ih]

theorem SAnn.replacePlaceholders_nil (a : SAnn) : a.replacePlaceholders [] = a := by
  simp only [SAnn.replacePlaceholders, Anthem.replacePlaceholders_nil]

theorem controlStep_eq (pub : List Pred) (st : Specification × Nat) (f : Formula) :
    ∃ a : SAnn, (controlStep pub st f).1 = st.1 ++ [a] ∧ a.formula = f ∧ a.direction = .universal ∧
      (a.role = .spec ∨ a.role = .assumption) ∧
      (a.role = .assumption ↔ ∃ p, headPredicate f = some p ∧ p ∉ pub) := by
  unfold controlStep
  split
  · rename_i p hp
    split
    · rename_i hin
      exact ⟨_, rfl, rfl, rfl, Or.inl rfl, fun hr => (by cases hr),
        fun ⟨q, hq, hn⟩ => absurd (Option.some.inj (hp.symm.trans hq) ▸ hin) hn⟩
    · rename_i hnp
      exact ⟨_, rfl, rfl, rfl, Or.inr rfl, fun _ => ⟨p, hp, hnp⟩, fun _ => rfl⟩
  · rename_i hp
    exact ⟨_, rfl, rfl, rfl, Or.inl rfl, fun hr => (by cases hr), fun ⟨q, hq, _⟩ => (by rw [hp] at hq; cases hq)⟩

theorem controlTranslate_fold (pub : List Pred) : ∀ (th : Theory) (init : Specification × Nat),
    ∃ l : List SAnn, (th.foldl (controlStep pub) init).1 = init.1 ++ l ∧ l.map (·.formula) = th ∧
      ∀ a ∈ l, a.direction = .universal ∧ (a.role = .spec ∨ a.role = .assumption) ∧
        (a.role = .assumption ↔ ∃ p, headPredicate a.formula = some p ∧ p ∉ pub) := by
  intro th
  induction th with
  | nil => intro init; exact ⟨[], (List.append_nil _).symm, rfl, fun _ h => (List.not_mem_nil h).elim⟩
  | cons f th ih =>
    intro init
    obtain ⟨a, ha, hf, hrest⟩ := controlStep_eq pub init f
    obtain ⟨l, hl, hm, hall⟩ := ih (controlStep pub init f)
    refine ⟨a :: l, by rw [List.foldl_cons, hl, ha, List.append_assoc]; rfl, by rw [List.map_cons, hf, hm], ?_⟩
    intro x hx
    rcases List.mem_cons.mp hx with rfl | hx
    · exact hf ▸ hrest
    · exact hall x hx

theorem controlTranslate_spec (pub : List Pred) (th : Theory) :
    (∀ a ∈ controlTranslate pub th, a.formula ∈ th ∧ a.direction = .universal ∧ (a.role = .spec ∨ a.role = .assumption)) ∧
    (∀ f ∈ th, ∃ a ∈ controlTranslate pub th, a.formula = f) := by
  obtain ⟨l, hl, hm, hall⟩ := controlTranslate_fold pub th ([], 0)
  rw [List.nil_append] at hl
  unfold controlTranslate
  rw [hl, ← hm]
  exact ⟨fun a ha => ⟨List.mem_map_of_mem ha, (hall a ha).1, (hall a ha).2.1⟩, fun f hf => List.mem_map.mp hf⟩

theorem forall_controlTranslate (pub : List Pred) (th : Theory) (Q : Formula → Prop) :
    (∀ a ∈ controlTranslate pub th, Q a.formula) ↔ ∀ F ∈ th, Q F :=
  ⟨fun h F hF => by obtain ⟨a, ha, rfl⟩ := (controlTranslate_spec pub th).2 F hF; exact h a ha,
    fun h a ha => h _ ((controlTranslate_spec pub th).1 a ha).1⟩

theorem controlTranslate_assumption (pub : List Pred) (th : Theory) (f : Formula) (hf : f ∈ th) (p : Pred)
    (hp : headPredicate f = some p) (hnp : p ∉ pub) :
    ∃ a ∈ controlTranslate pub th, a.formula = f ∧ a.role = .assumption := by
  obtain ⟨l, hl, hm, hall⟩ := controlTranslate_fold pub th ([], 0)
  rw [List.nil_append] at hl
  unfold controlTranslate
  rw [hl]
  obtain ⟨a, ha, rfl⟩ := List.mem_map.mp (hm ▸ hf)
  exact ⟨a, ha, rfl, (hall a ha).2.2.mpr ⟨p, hp, hnp⟩⟩

def isAss (a : SAnn) : Bool := a.role = .assumption
def isSpec (a : SAnn) : Bool := a.role = .spec

def UnivSA (l : List SAnn) : Prop := ∀ a ∈ l, a.direction = .universal ∧ (a.role = .spec ∨ a.role = .assumption)

def RolesAS (l : List SAnn) : Prop := ∀ a ∈ l, a.role = .spec ∨ a.role = .assumption

theorem rolesAS_of_univ {l : List SAnn} (h : UnivSA l) : RolesAS l := fun a ha => (h a ha).2

def mkProblem0 (name : String) (parts : List (List AnnF)) : Problem :=
  parts.foldl (fun (p : Problem) fs => p.addAnnotated fs) ⟨name, []⟩

theorem mkProblem_eq (name : String) (parts : List (List AnnF)) :
    mkProblem name parts = (mkProblem0 name parts).renameConflictingSymbols.uniqueNames := rfl

theorem mkProblem0_role_forall (role : PRole) (Q : Formula → Prop) : ∀ (parts : List (List AnnF)) (p : Problem),
    (∀ a ∈ (parts.foldl (fun (p : Problem) fs => p.addAnnotated fs) p).formulas, a.role = role → Q a.formula) ↔
      (∀ a ∈ p.formulas, a.role = role → Q a.formula) ∧ ∀ part ∈ parts, ∀ a ∈ part, a.role = role → Q a.formula := by
  intro parts
  induction parts with
  | nil => intro p; simp
  | cons part parts ih =>
    intro p
    simp only [List.foldl_cons, ih, List.forall_mem_cons]
    simp only [Problem.addAnnotated, List.forall_mem_append, List.forall_mem_map, and_assoc]

/-- refuting the problem assembled from `parts`, before `rename_conflicting_symbols` -/
def SemRef (J : Interp) (ρ : Asg) (parts : List (List AnnF)) : Prop :=
  (∀ part ∈ parts, ∀ a ∈ part, a.role = .axiom → sat J a.formula ρ) ∧
  ¬ ∀ part ∈ parts, ∀ a ∈ part, a.role = .conjecture → sat J a.formula ρ

theorem mk_refutes (J : Interp) (ρ : Asg) (name : String) (parts : List (List AnnF)) (d : Decomposition)
    (hnc : (mkProblem0 name parts).renameConflictingSymbols = mkProblem0 name parts) :
    (∃ P ∈ (mkProblem name parts).decompose d, Refutes J ρ P) ↔
      (∀ part ∈ parts, ∀ a ∈ part, a.role = .axiom → sat J a.formula ρ) ∧
      ¬ ∀ part ∈ parts, ∀ a ∈ part, a.role = .conjecture → sat J a.formula ρ := by
  have hall : ∀ role, (∀ a ∈ (mkProblem name parts).formulas, a.role = role → sat J a.formula ρ) ↔
      ∀ part ∈ parts, ∀ a ∈ part, a.role = role → sat J a.formula ρ := by
    intro role
    rw [mkProblem_eq, hnc]
    refine (uniqueNames_role_forall (mkProblem0 name parts) role (fun F => sat J F ρ)).trans ?_
    unfold mkProblem0
    rw [mkProblem0_role_forall role (fun F => sat J F ρ) parts ⟨name, []⟩]
    simp
  rw [decompose_refutes, refutes_iff, hall, hall]

theorem conjOf_sem (J : Interp) (ρ : Asg) (brk : Bool) (a : SAnn) :
    (∀ c ∈ conjOf brk a, c.role = .conjecture) ∧
    ((∀ c ∈ conjOf brk a, sat J c.formula ρ) ↔ sat J a.formula ρ) := by
  unfold conjOf
  cases brk with
  | false =>
    simp only [Bool.false_eq_true, if_false, List.mem_singleton, forall_eq]
    exact ⟨rfl, Iff.rfl⟩
  | true =>
    simp only [if_true, List.mem_map, forall_exists_index, and_imp, forall_apply_eq_imp_iff₂]
    refine ⟨fun _ _ => rfl, ?_⟩
    rw [← break_equiv J a.formula ρ]
    unfold breakAnnotated
    simp only [List.mem_map, Prod.exists, forall_exists_index, and_imp]
    constructor
    · intro h G hG
      obtain ⟨i, hi⟩ := (mem_indexFrom (k := 0)).mp hG
      exact h _ i G hi rfl
    · rintro h x i G hi rfl
      exact h G ((mem_indexFrom (k := 0)).mpr ⟨i, hi⟩)

def OutputsEmpty (t : ExternalTask) (p : Program) (T : PredI) : Prop :=
  ∀ q ∈ missingOutputs t p, ∀ ds : List Dom, ds.length = q.arity → ¬ T q.symbol ds

theorem emptyDefs_sat (t : ExternalTask) (p : Program) (J : Interp) (ρ : Asg) :
    (∀ F ∈ (missingOutputs t p).map (fun q => completeDefinition (atomFromPred q) []), sat J F ρ) ↔
      OutputsEmpty t p J.pred := by
  simp only [List.mem_map, forall_exists_index, and_imp, forall_apply_eq_imp_iff₂, OutputsEmpty]
  exact forall_congr' fun q => imp_congr_right fun _ => emptyDefinition_sem J.pred J.fc q ρ

theorem theoryTranslate_inv (t : ExternalTask) (m : PlaceholderMap) (fuel : Nat) (p : Program) (th : Theory)
    (h : theoryTranslate t m fuel p = .ok th) :
    ∃ Γ, completion ((tauStar p).map (Formula.replacePlaceholders m)) t.userGuide.inputs = some Γ ∧
      (t.simplify = false → th = Γ ++ (missingOutputs t p).map fun q => completeDefinition (atomFromPred q) []) ∧
      ∀ (J : Interp) (ρ : Asg), (∀ F ∈ th, sat J F ρ) ↔ (∀ F ∈ Γ, sat J F ρ) ∧ OutputsEmpty t p J.pred := by
  unfold theoryTranslate at h
  cases hc : completion ((tauStar p).map (Formula.replacePlaceholders m)) t.userGuide.inputs with
  | none => simp [hc, globalsPanic] at h  -- `h` is `.panic _ = .ok _`
  | some Γ =>
    refine ⟨Γ, rfl, ?_⟩
    by_cases hs : t.simplify = true
    · cases hst : simplifyTheory .classic fuel (Γ ++ (missingOutputs t p).map (fun q => completeDefinition (atomFromPred q) [])) with
      | none => simp [hc, hs, hst, globalsPanic] at h  -- `h` is `.timeout = .ok _`
      | some th' =>
        simp only [hc, hs, hst, globalsPanic, Bool.false_eq_true, if_false, if_true] at h
        obtain rfl := Outcome.ok.inj h
        refine ⟨fun hf => (by rw [hf] at hs; cases hs), fun J ρ => ?_⟩
        rw [simplifyTheory_some hst, allTrue_simplify_classic, List.forall_mem_append, emptyDefs_sat]
    · simp only [hc, hs, globalsPanic, Bool.false_eq_true, if_false] at h
      obtain rfl := Outcome.ok.inj h
      exact ⟨fun _ => rfl, fun J ρ => by rw [List.forall_mem_append, emptyDefs_sat]⟩

theorem theoryTranslate_ok (t : ExternalTask) (fuel : Nat) (p : Program) (th : Theory)
    (h : theoryTranslate t [] fuel p = .ok th) :
    ∃ Γ, completion (tauStar p) t.userGuide.inputs = some Γ ∧
      ∀ (J : Interp) (ρ : Asg), (∀ F ∈ th, sat J F ρ) ↔ (∀ F ∈ Γ, sat J F ρ) ∧ OutputsEmpty t p J.pred := by
  obtain ⟨Γ, hΓ, _, hsem⟩ := theoryTranslate_inv t [] fuel p th h
  rw [List.map_id'' replacePlaceholders_nil] at hΓ
  exact ⟨Γ, hΓ, hsem⟩

@[simp] theorem Outcome.ok_bind {α β} (a : α) (f : α → Outcome β) : (Outcome.ok a >>= f) = f a := rfl
@[simp] theorem Outcome.err_bind {α β} (e : TaskError) (f : α → Outcome β) : (Outcome.err e >>= f) = .err e := rfl
@[simp] theorem Outcome.panic_bind {α β} (s : String) (f : α → Outcome β) : (Outcome.panic s >>= f) = .panic s := rfl
@[simp] theorem Outcome.timeout_bind {α β} (f : α → Outcome β) : (Outcome.timeout >>= f) = .timeout := rfl
@[simp] theorem Outcome.pure_eq {α} (a : α) : (pure a : Outcome α) = .ok a := rfl

theorem Outcome.bind_eq_ok {α β} {x : Outcome α} {f : α → Outcome β} {b : β} (h : (x >>= f) = .ok b) :
    ∃ a, x = .ok a ∧ f a = .ok b := by
  cases x with
  | ok a => exact ⟨a, rfl, h⟩
  | err e => cases h
  | panic s => cases h
  | timeout => cases h

def rightSide (t : ExternalTask) (ΓR : Theory) : List SAnn :=
  (controlTranslate t.userGuide.publicPreds ΓR).map fun a =>
    { a with formula := a.formula.renamePreds t.clashMap }

theorem rightSide_univ (t : ExternalTask) (ΓR : Theory) : UnivSA (rightSide t ΓR) := by
  intro a ha
  obtain ⟨a0, ha0, rfl⟩ := List.mem_map.mp ha
  exact ((controlTranslate_spec _ ΓR).1 a0 ha0).2

def leftSide (t : ExternalTask) (ΓL : Theory) : List SAnn := controlTranslate t.userGuide.publicPreds ΓL

theorem leftSide_univ (t : ExternalTask) (ΓL : Theory) : UnivSA (leftSide t ΓL) :=
  fun a ha => ((controlTranslate_spec _ ΓL).1 a ha).2

theorem of_ite_some_eq_none {α} {c : Prop} [Decidable c] {e : α} {x : Option α}
    (h : (if c then some e else x) = none) : ¬ c ∧ x = none := by
  split at h
  · cases h
  · exact ⟨‹_›, h⟩

theorem precheck_inv (t : ExternalTask) (h : precheck t = none) :
    (∀ q ∈ t.userGuide.inputs, q ∉ t.userGuide.outputs) ∧
    programError t t.program t.progPrivate = none ∧
    assumptionError t [] t.userGuide.formulas = none ∧
    (∀ PL, t.specification = .inl PL → programError t PL t.specPrivate = none) ∧
    (∀ S, t.specification = .inr S → RolesAS S) := by
  unfold precheck at h
  obtain ⟨hov, h⟩ := of_ite_some_eq_none (of_ite_some_eq_none h).2
  refine ⟨fun q hq ho => hov (List.any_eq_true.mpr ⟨q, hq, decide_eq_true ho⟩), ?_⟩
  cases hP : programError t t.program t.progPrivate with
  | some e => rw [hP] at h; cases h
  | none =>
    rw [hP] at h
    have h := (of_ite_some_eq_none h).2
    cases hA : assumptionError t [] t.userGuide.formulas with
    | some e => rw [hA] at h; cases h
    | none =>
      rw [hA] at h
      refine ⟨rfl, rfl, fun PL hs => by rw [hs] at h; exact h, fun S hs => ?_⟩
      rw [hs] at h
      have h := (of_ite_some_eq_none h).2
      cases hB : assumptionError t t.progPrivate S with
      | some e => rw [hB] at h; cases h
      | none =>
        rw [hB] at h
        have hroles := (of_ite_some_eq_none h).1
        intro a ha
        cases hr : a.role with
        | assumption => exact Or.inr rfl
        | spec => exact Or.inl rfl
        | _ => exact absurd (List.any_eq_true.mpr ⟨a, ha, by rw [hr]; rfl⟩) hroles

theorem precheck_programs (t : ExternalTask) (PL : Program) (hspec : t.specification = .inl PL)
    (h : precheck t = none) :
    programError t t.program t.progPrivate = none ∧ programError t PL t.specPrivate = none :=
  ⟨(precheck_inv t h).2.1, (precheck_inv t h).2.2.2.1 PL hspec⟩

theorem precheck_spec (t : ExternalTask) (S : Specification) (hspec : t.specification = .inr S)
    (h : precheck t = none) :
    programError t t.program t.progPrivate = none ∧ RolesAS S :=
  ⟨(precheck_inv t h).2.1, (precheck_inv t h).2.2.2.2 S hspec⟩

theorem side_allTrue (J : Interp) (ρ : Asg) (l : List SAnn) (hu : UnivSA l) :
    (∀ a ∈ l, sat J a.formula ρ) ↔
      (∀ a ∈ l, a.role = .assumption → sat J a.formula ρ) ∧ (∀ a ∈ l, a.role = .spec → sat J a.formula ρ) := by
  constructor
  · intro h; exact ⟨fun a ha _ => h a ha, fun a ha _ => h a ha⟩
  · rintro ⟨h1, h2⟩ a ha
    rcases (hu a ha).2 with hr | hr
    · exact h2 a ha hr
    · exact h1 a ha hr

end Anthem
