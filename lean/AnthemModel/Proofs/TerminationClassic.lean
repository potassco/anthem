/-
  The five CLASSIC rewrites decrease the measure of `Proofs/Termination` whenever they change the
  formula; with it the fixpoint loop terminates for all three portfolios.
-/
import AnthemModel.Proofs.Termination
import AnthemModel.Proofs.RewritesClassic
namespace Anthem

theorem ITerm.subst_of_not_mem (x : String) (s : ITerm) : ∀ t : ITerm, (⟨x, .integer⟩ : Var) ∉ t.vars → t.subst x s = t := by
  intro t
  induction t with
  | num _ | fc _ => exact fun _ => rfl
  | var y => exact fun h => if_neg fun e => h (List.mem_singleton.2 (congrArg (Var.mk · .integer) e))
  | neg a ih => exact fun h => congrArg ITerm.neg (ih h)
  | bin op l r ihl ihr =>
    intro h
    rw [ITerm.subst, ihl fun m => h (mem_ext.2 (.inl m)), ihr fun m => h (mem_ext.2 (.inr m))]

theorem GTerm.subst_of_not_mem (v : Var) (s : GTerm) (t : GTerm) (h : v ∉ t.vars) : t.subst v s = t := by
  obtain ⟨vn, vs⟩ := v
  cases t with
  | inf | sup | fc _ => rfl
  | var y =>
    refine if_neg fun hc => h ?_
    have e1 : vn = y := hc.1
    have e2 : vs = .general := hc.2
    rw [e1, e2]
    exact List.mem_singleton.2 rfl
  | int it =>
    by_cases hs : vs = .integer
    · subst hs
      cases s with
      | int si => exact congrArg GTerm.int (ITerm.subst_of_not_mem vn si it h)
      | _ => rfl
    · exact if_neg hs
  | symb st =>
    by_cases hs : vs = .symbol
    · subst hs
      cases s with
      | symb ss =>
        cases st with
        | var y =>
          exact congrArg GTerm.symb (if_neg fun e => h (List.mem_singleton.2 (congrArg (Var.mk · .symbol) e)))
        | sym _ | fc _ => rfl
      | _ => rfl
    · exact if_neg hs

theorem toTerm_subst_self (v : Var) (s : GTerm) (hc : SortCompatible v s) : v.toTerm.subst v s = s := by
  obtain ⟨vn, vs⟩ := v
  cases vs with
  | general => simp [Var.toTerm, GTerm.subst]
  | integer =>
    obtain ⟨si, rfl⟩ := hc.1 rfl
    simp [Var.toTerm, GTerm.subst, ITerm.subst]
  | symbol =>
    obtain ⟨ss, rfl⟩ := hc.2 rfl
    simp [Var.toTerm, GTerm.subst, STerm.subst]

/-- a function mapped over the terms of a comparison can only merge the two sides of a link -/
theorem eqLinks_map (σ : GTerm → GTerm) : ∀ (gs : List Guard) (t : GTerm),
    eqLinks (σ t) (gs.map fun g => ⟨g.rel, σ g.term⟩) ≤ eqLinks t gs ∧
    ((∃ p ∈ individuals t gs, p.2.1 = .eq ∧ p.1 ≠ p.2.2 ∧ σ p.1 = σ p.2.2) →
      eqLinks (σ t) (gs.map fun g => ⟨g.rel, σ g.term⟩) < eqLinks t gs) := by
  intro gs
  induction gs with
  | nil =>
    refine fun _ => ⟨Nat.le_refl _, fun h => ?_⟩
    obtain ⟨_, hp, _⟩ := h
    cases hp
  | cons g gs ih =>
    intro t
    have hg : (if g.rel = .eq ∧ σ t ≠ σ g.term then 1 else 0) ≤ (if g.rel = .eq ∧ t ≠ g.term then 1 else 0) := by
      refine ite_ind (· ≤ _) (fun h => ?_) fun _ => Nat.zero_le _
      rw [if_pos ⟨h.1, fun e => h.2 (congrArg σ e)⟩]
      exact Nat.le_refl 1
    refine ⟨Nat.add_le_add hg (ih _).1, fun h => ?_⟩
    obtain ⟨p, hp, h1, h2, h3⟩ := h
    rcases List.mem_cons.mp hp with rfl | hp
    · refine Nat.add_lt_add_of_lt_of_le ?_ (ih _).1
      rw [if_neg fun h => h.2 h3, if_pos ⟨h1, h2⟩]
      exact Nat.zero_lt_one
    · exact Nat.add_lt_add_of_le_of_lt hg ((ih _).2 ⟨p, hp, h1, h2, h3⟩)

theorem MuLe.atomic (a : AtomicF) (v : Var) (s : GTerm) : MuLe (.atomic (a.subst v s)) (.atomic a) := by
  cases a with
  | cmp t gs =>
    refine ⟨Nat.le_of_eq ?_, (eqLinks_map (·.subst v s) gs t).1, rfl, rfl⟩
    simp only [AtomicF.subst, Formula.pw, AtomicF.pw, List.length_map]
  | tru | fls | atom _ => exact .refl _

theorem MuLe.not {a b : Formula} (h : MuLe a b) : MuLe (.not a) (.not b) :=
  ⟨Nat.succ_le_succ h.1, h.2⟩

theorem MuLe.bin (c : Conn) {a b a' b' : Formula} (h : MuLe a a') (k : MuLe b b') : MuLe (.bin c a b) (.bin c a' b') :=
  ⟨Nat.add_le_add_right (Nat.mul_le_mul h.1 k.1) _, Nat.add_le_add h.2.1 k.2.1,
    (congr (congrArg Nat.add h.2.2.1) k.2.2.1 : a.gw + b.gw = a'.gw + b'.gw),
    (congr (congrArg Nat.add h.2.2.2) k.2.2.2 : a.bw + b.bw = a'.bw + b'.bw)⟩

theorem countGeneral_eq_map (vs : List Var) :
    countGeneral vs = ((vs.map (·.sort)).filter (· = .general)).length := by
  rw [List.filter_map, List.length_map]; rfl

theorem MuLe.quantify (q : Quant) {vs' vs : List Var} {a b : Formula} (h : MuLe a b)
    (hv : vs'.map (·.sort) = vs.map (·.sort)) : MuLe (a.quantify q vs') (.quant q vs b) := by
  refine (MuLe.quantify_le a q vs').trans ⟨Nat.succ_le_succ h.1, h.2.1, ?_, ?_⟩
  · show countGeneral vs' + _ = countGeneral vs + _
    rw [countGeneral_eq_map, hv, ← countGeneral_eq_map, h.2.2.1]
  · show vs'.length + _ = vs.length + _
    rw [← List.length_map (·.sort), hv, List.length_map, h.2.2.2]

theorem substFuel_measure : ∀ (n : Nat) (f : Formula) (v : Var) (s : GTerm), MuLe (f.substFuel n v s) f :=
  substFuel_rel MuLe.refl MuLe.trans MuLe.atomic MuLe.not MuLe.bin MuLe.quantify

theorem subst_measure (f : Formula) (v : Var) (s : GTerm) :
    (f.subst v s).pw ≤ f.pw ∧ (f.subst v s).ew ≤ f.ew ∧ (f.subst v s).gw = f.gw ∧ (f.subst v s).bw = f.bw :=
  substFuel_measure _ f v s

theorem removeDoubleNegation_le4 (F : Formula) : Le4 (removeDoubleNegation F) F := by
  unfold removeDoubleNegation
  split
  · exact .of_pw (Nat.lt_succ_of_lt (Nat.lt_succ_self _))
  · exact .refl _

theorem extendQuantifierScope_le4 (F : Formula) : Le4 (extendQuantifierScope F) F := by
  rcases extendQuantifierScope_cases F with e | ⟨c, q, vs, f, g, hc, _, ⟨rfl, e⟩ | ⟨rfl, e⟩⟩ <;> rw [e]
  · exact .refl _
  all_goals
    -- with `c.off = 0`: `f.pw * g.pw + 1 < (f.pw + 1) * g.pw`, and the same with the factors exchanged
    have hoff : c.off = 0 := by rcases hc with rfl | rfl <;> rfl
    refine .of_pw ?_
    simp only [Formula.pw, hoff, Nat.add_zero, Nat.succ_mul, Nat.mul_succ]
    exact Nat.add_lt_add_left g.pw_ge _

theorem toTerm_vars_self (v : Var) : v ∈ v.toTerm.vars := by rw [toTerm_vars]; exact List.mem_singleton.mpr rfl

theorem ew_substFuel_lt (v : Var) (d : GTerm) {t : GTerm} {gs : List Guard}
    (hlt : ((AtomicF.cmp t gs).subst v d).ew < (AtomicF.cmp t gs).ew) : ∀ (b : Formula) (n : Nat), b.depth ≤ n →
      .atomic (.cmp t gs) ∈ conjoinInvert b → (Formula.substFuel n b v d).ew < b.ew := by
  intro b
  induction b with
  | atomic a =>
    intro n _ hm
    cases List.mem_singleton.1 hm
    cases n <;> exact hlt
  | not f _ | quant q vs f _ => exact fun n _ hm => nomatch List.mem_singleton.1 hm
  | bin c l r ihl ihr =>
    intro n hn hm
    cases c with
    | and =>
      cases n with
      | zero => exact absurd hn (Nat.not_succ_le_zero _)
      | succ m =>
        have hm' : max l.depth r.depth ≤ m := Nat.le_of_succ_le_succ hn
        rcases List.mem_append.1 hm with hm | hm
        · exact Nat.add_lt_add_of_lt_of_le (ihl m (Nat.le_trans (Nat.le_max_left _ _) hm') hm)
            (substFuel_measure m r v d).2.1
        · exact Nat.add_lt_add_of_le_of_lt (substFuel_measure m l v d).2.1
            (ihr m (Nat.le_trans (Nat.le_max_right _ _) hm') hm)
    | or | imp | rimp | iff => exact nomatch List.mem_singleton.1 hm

theorem findDefinition_strict (v : Var) (d : GTerm) : ∀ (b : Formula) (n : Nat), b.depth ≤ n →
    findDefinition v b = some d → (Formula.substFuel n b v d).ew < b.ew := by
  intro b n hn h
  obtain ⟨t, gs, l, r, hmem, hind, hor, hc, hnv⟩ := findDefinition_some h
  refine ew_substFuel_lt v d ((eqLinks_map (·.subst v d) gs t).2 ⟨(l, .eq, r), hind, rfl, ?_⟩) b n hn hmem
  -- the link is `v = d` or `d = v`; substitution makes both sides `d`
  have hne : v.toTerm ≠ d := fun e => hnv (e ▸ toTerm_vars_self v)
  have hσ : v.toTerm.subst v d = d.subst v d :=
    (toTerm_subst_self v d hc).trans (GTerm.subst_of_not_mem v d d hnv).symm
  rcases hor with ⟨rfl, rfl⟩ | ⟨rfl, rfl⟩
  · exact ⟨hne, hσ⟩
  · exact ⟨hne.symm, hσ.symm⟩

theorem definedStep_le4 (b : Formula) (x : Var) : Le4 (definedStep b x) b := by
  unfold definedStep
  split
  · rename_i d hd
    exact .inr (lexStep_of_le (subst_measure b x d).1 (.inl (findDefinition_strict x d b _ (Nat.le_succ _) hd)))
  · exact .refl _

theorem substituteDefinedVariables_le4 (F : Formula) : Le4 (substituteDefinedVariables F) F := by
  rcases substituteDefinedVariables_cases F with e | ⟨vs, f, rfl, e⟩ <;> rw [e]
  · exact .refl _
  · have h : Le4 (vs.reverse.foldl definedStep f) f :=
      foldl_keeps (I := (Le4 · f)) (fun x _ b hb => (definedStep_le4 b x).trans hb) f (.refl f)
    cases vs with
    | nil => exact h.trans (.of_pw (Nat.lt_succ_self _))
    | cons => exact h.ctx (.quant .ex _) (Lt4.quant .ex _)

theorem countGeneral_append (a b : List Var) : countGeneral (a ++ b) = countGeneral a + countGeneral b := by
  unfold countGeneral
  rw [List.filter_append, List.length_append]

theorem countGeneral_filter_ne_lt {Z : Var} (hZ : Z.sort = .general) {vs : List Var} (h : Z ∈ vs) :
    countGeneral (vs.filter (· ≠ Z)) < countGeneral vs := by
  -- a sublist of the general variables of `vs` that lacks `Z`
  have hs : ((vs.filter (· ≠ Z)).filter (·.sort = .general)).Sublist (vs.filter (·.sort = .general)) :=
    List.filter_sublist.filter _
  refine Nat.lt_of_le_of_ne hs.length_le fun e => ?_
  have hm := hs.eq_of_length e ▸ List.mem_filter.2 ⟨h, decide_eq_true hZ⟩
  exact absurd (List.mem_filter.1 (List.mem_filter.1 hm).1).2 (by simp)

/-- `replacement_helper`: a general variable goes, an integer variable comes, whatever name and term -/
theorem replacement_lt4 (q : Quant) (outer : List Var) (f : Formula) (Z : Var) (hZ : Z.sort = .general)
    (hZo : Z ∈ outer) (x : String) (s : GTerm) :
    Lt4 (.quant q (outer.filter (· ≠ Z) ++ [⟨x, .integer⟩]) (f.subst Z s)) (.quant q outer f) := by
  obtain ⟨s1, s2, s3, _⟩ := subst_measure f Z s
  refine lexStep_of_le (Nat.succ_le_succ s1) (lexStep_of_le s2 (.inl ?_))
  show countGeneral (_ ++ [_]) + _ < _
  rw [countGeneral_append, s3]
  exact Nat.add_lt_add_right (countGeneral_filter_ne_lt hZ hZo) _

theorem restrictQuantifierDomain_le4 (F : Formula) : Le4 (restrictQuantifierDomain F) F := by
  rcases restrictQuantifierDomain_cases F with e | ⟨q, outer, f, Z, I, rfl, e, hZ, hZo, _⟩ <;> rw [e]
  · exact .refl _
  · exact .inr (replacement_lt4 q outer f Z hZ hZo _ _)

theorem prodPw_append (a b : List Formula) : prodPw (a ++ b) = prodPw a * prodPw b := by
  induction a with
  | nil => exact (Nat.one_mul _).symm
  | cons x a ih => rw [List.cons_append, prodPw, prodPw, ih, Nat.mul_assoc]

theorem prodPw_conjoinInvert (f : Formula) : prodPw (conjoinInvert f) = f.pw := by
  induction f with
  | bin c l r ihl ihr =>
    cases c
    case and => rw [conjoinInvert, prodPw_append, ihl, ihr]; rfl
    all_goals exact Nat.mul_one _
  | atomic _ | not _ _ | quant _ _ _ _ => exact Nat.mul_one _

theorem prodPw_sublist {l₁ l₂ : List Formula} (h : l₁.Sublist l₂) :
    prodPw l₁ ≤ prodPw l₂ ∧ (l₁.length < l₂.length → 2 * prodPw l₁ ≤ prodPw l₂) := by
  induction h with
  | slnil => exact ⟨Nat.le_refl _, fun h => absurd h (Nat.lt_irrefl _)⟩
  | cons a _ ih => exact ⟨Nat.le_trans ih.1 (Nat.le_mul_of_pos_left _ a.pw_pos), fun _ => Nat.mul_le_mul a.pw_ge ih.1⟩
  | cons_cons a _ ih =>
    refine ⟨Nat.mul_le_mul_left _ ih.1, fun hl => ?_⟩
    rw [prodPw, Nat.mul_left_comm]
    exact Nat.mul_le_mul_left _ (ih.2 (Nat.lt_of_succ_lt_succ hl))

theorem conjoin_pw_lt {rest : List Formula} {N : Nat} (h2 : 2 * prodPw rest ≤ N) (h4 : 4 ≤ N) :
    (conjoin rest).pw < N := by
  cases rest with
  | nil => exact Nat.lt_of_lt_of_le (by decide) h4
  | cons x xs =>
    rw [conjoin_pw_cons]
    exact Nat.lt_of_lt_of_le ((Nat.lt_mul_iff_one_lt_left (prodPw_pos _)).2 (Nat.lt_succ_self 1)) h2

theorem simplifyTransitiveEquality_le4 (F : Formula) : Le4 (simplifyTransitiveEquality F) F := by
  rcases simplifyTransitiveEquality_cases F with e | ⟨vars, l, r, rest, k, d, rfl, e, h⟩ <;> rw [e]
  · exact .refl _
  · -- the remaining conjuncts are a proper sublist of the conjuncts of `l and r`
    refine .of_pw (Nat.succ_lt_succ (Nat.lt_of_le_of_lt (subst_measure _ _ _).1 (conjoin_pw_lt ?_
      (Nat.le_add_right_of_le (Nat.mul_le_mul l.pw_ge r.pw_ge)))))
    rw [← prodPw_conjoinInvert (.bin .and l r)]
    exact (prodPw_sublist h.sublist).2 h.shorter

theorem portfolio_le4 : ∀ p : Portfolio, ∀ f ∈ p.rewrites, ∀ F, Le4 (f F) F :=
  Portfolio.forall_rewrites evaluateComparisons_le4 applyNegationDefinitionInverse_le4
    applyReverseImplicationDefinition_le4 applyEquivalenceDefinitionInverse_le4 removeIdentities_le4
    removeAnnihilations_le4 removeIdempotences_le4 removeOrphanedVariables_le4 removeEmptyQuantifications_le4
    joinNestedQuantifiers_le4 removeDoubleNegation_le4 substituteDefinedVariables_le4
    restrictQuantifierDomain_le4 extendQuantifierScope_le4 simplifyTransitiveEquality_le4

end Anthem
