/-
  C02 without side conditions on names, at the level of the task: "no emitted problem has a countermodel"
  is used through `valid_family` / `valid_single` (`rename_conflicting_symbols` does not matter for
  validity), and the parts are read by `assembled_semref`, which involves no emitted problem, hence no renaming.
-/
import AnthemModel.Proofs.RenameValid
import AnthemModel.Proofs.ExternalOutline
import AnthemModel.Proofs.ExternalSemPh
namespace Anthem
open Asp

namespace Outline

theorem ugAss_preds (t : ExternalTask) (hpre : precheck t = none) :
    ∀ a ∈ t.ugAss, ∀ q ∈ a.formula.preds, q ∈ t.userGuide.inputs := by
  have hA := (precheck_inv t hpre).2.2.1
  intro a ha q hq
  unfold ExternalTask.ugAss at ha
  obtain ⟨a0, ha0, rfl⟩ := List.mem_map.mp ha
  simp only [List.mem_filter, decide_eq_true_eq] at ha0
  simp only [SAnn.replacePlaceholders, Formula.replacePlaceholders_eq, Formula.preds_substSym] at hq
  unfold assumptionError at hA
  split at hA
  · cases hA
  · rename_i hany
    have : ¬ (decide (a0.role = .assumption) && a0.formula.preds.any (· ∉ ext [] t.userGuide.inputs)) = true := by
      intro hc
      exact hany (List.any_eq_true.mpr ⟨a0, ha0.1, hc⟩)
    simp only [ha0.2, decide_true, Bool.true_and, List.any_eq_true, decide_eq_true_eq, not_exists, not_and,
      Classical.not_not] at this
    have := this q hq
    rcases mem_ext.mp this with h0 | h0
    · cases h0
    · exact h0

/-- **C02, soundness for every accepted task, with no side condition**: if none of the emitted problems
    (outline problems and final problems) has a countermodel, then no interpretation that satisfies the
    user-guide assumptions witnesses a difference between the two sides in a requested direction. -/
theorem external_outline_sound_valid (t : ExternalTask) (hbyp : t.bypassTightness = false) (fuel : Nat) (ps : List Problem)
    (h : externalProblems t fuel = .ok ps) :
    ∃ (left : List SAnn) (ΓR : Theory),
      (match t.specification with
        | .inl PL => ∃ ΓL, theoryTranslate t t.phMap fuel PL = .ok ΓL ∧ left = controlTranslate t.userGuide.publicPreds ΓL
        | .inr S => left = S.map (SAnn.replacePlaceholders t.phMap)) ∧
      theoryTranslate t t.phMap fuel t.program = .ok ΓR ∧
      ((∀ P ∈ ps, ∀ J ρ, ¬ Refutes J ρ P) →
        ∀ (J : Interp) (ρ : Asg),
          ¬ ((∀ a ∈ t.ugAss, sat J a.formula ρ) ∧
            (∀ a ∈ left, lStable a = true → sat J a.formula ρ) ∧
            (∀ a ∈ rightSide t ΓR, a.role = .assumption → sat J a.formula ρ) ∧
            (((t.direction = .universal ∨ t.direction = .forward) ∧
                (∀ a ∈ left, lFwdPrem a = true → sat J a.formula ρ) ∧
                ¬ (Stable (t.program.substSym (phNu t.phMap J.fc)) t.userGuide.inputs
                  (restrictTo (ext t.program.preds t.userGuide.inputs)
                    (renamedInterp t.clashMap J.pred)) J.fc ∧
                  OutputsEmpty t t.program (renamedInterp t.clashMap J.pred))) ∨
             ((t.direction = .universal ∨ t.direction = .backward) ∧
                (Stable (t.program.substSym (phNu t.phMap J.fc)) t.userGuide.inputs
                  (restrictTo (ext t.program.preds t.userGuide.inputs)
                    (renamedInterp t.clashMap J.pred)) J.fc ∧
                  OutputsEmpty t t.program (renamedInterp t.clashMap J.pred)) ∧
                ∃ a ∈ left, lBwdConc a = true ∧ ¬ sat J a.formula ρ)))) := by
  obtain ⟨hpre, left, ΓR, po, hroles, hleft, hR, hPO, hps⟩ := externalProblems_outline t fuel ps h
  refine ⟨left, ΓR, hleft, hR, fun hvalid J ρ hwit => ?_⟩
  have hbase : ∀ a ∈ t.ugAss ++ left ++ rightSide t ΓR, ∀ q ∈ a.formula.preds, q ∈ takenOf t left ΓR := by
    intro a ha q hq
    unfold takenOf
    rw [mem_foldl_ext, mem_foldl_ext]
    simp only [List.mem_append] at ha
    rcases ha with (ha | ha) | ha
    · exact Or.inl (Or.inl (ugAss_preds t hpre a ha q hq))
    · exact Or.inl (Or.inr ⟨a, ha, hq⟩)
    · exact Or.inr ⟨a, ha, hq⟩
  obtain ⟨hF, hB⟩ := assembled_outline_sound_sem t left t.ugAss ΓR po (takenOf t left ΓR)
    (proofOutlineFrom_good _ _ _ po hPO) (proofOutlineFrom_defsExt _ _ _ po hPO) hbase (by rw [← hps]; exact hvalid)
  have hsem := (assembled_semref t left t.ugAss ΓR J ρ _ (rightSide_stable_ph t hbyp hpre fuel ΓR hR J ρ)).mpr hwit
  rcases hsem with ⟨hd, hs⟩ | ⟨hd, hs⟩
  · exact hF hd J ρ hs
  · exact hB hd J ρ hs

end Outline

end Anthem
