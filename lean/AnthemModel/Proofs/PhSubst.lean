/-
  Placeholders, part 1: substitution of closed general terms for symbolic constants in target-language
  formulas (`replace_placeholders` is an instance). It leaves variables and predicates alone, and only the
  values of the substituted terms matter.
-/
import AnthemModel.Model.External
import AnthemModel.Semantics.Fol
namespace Anthem

def GTerm.substSym (θ : String → GTerm) : GTerm → GTerm
  | .symb (.sym s) => θ s
  | t => t

def AtomicF.substSym (θ : String → GTerm) : AtomicF → AtomicF
  | .atom a => .atom ⟨a.pred, a.args.map (GTerm.substSym θ)⟩
  | .cmp t gs => .cmp (t.substSym θ) (gs.map fun g => ⟨g.rel, g.term.substSym θ⟩)
  | a => a

def Formula.substSym (θ : String → GTerm) : Formula → Formula
  | .atomic a => .atomic (a.substSym θ)
  | .not f => .not (f.substSym θ)
  | .bin c l r => .bin c (l.substSym θ) (r.substSym θ)
  | .quant q vs f => .quant q vs (f.substSym θ)

/-- the substitution `replace_placeholders` performs -/
def phTheta (m : PlaceholderMap) (s : String) : GTerm :=
  match m.find? (·.1 = s) with
  | some (_, .general) => .fc s
  | some (_, .integer) => .int (.fc s)
  | some (_, .symbol) => .symb (.fc s)
  | none => .symb (.sym s)

theorem GTerm.replacePlaceholders_eq (m : PlaceholderMap) (t : GTerm) :
    t.replacePlaceholders m = t.substSym (phTheta m) := by
  cases t with
  | symb st =>
    cases st with
    | sym s =>
      simp only [GTerm.replacePlaceholders, GTerm.substSym, phTheta]
      cases m.find? (·.1 = s) with
      | none => rfl
      | some x => obtain ⟨n, srt⟩ := x; cases srt <;> rfl
    | fc c => rfl
    | var v => rfl
  | inf | sup | fc _ | var _ | int _ => rfl

theorem Formula.replacePlaceholders_eq (m : PlaceholderMap) : ∀ F : Formula,
    F.replacePlaceholders m = F.substSym (phTheta m) := by
  intro F
  induction F with
  | atomic a =>
    cases a with
    | tru | fls => rfl
    | atom a =>
      simp only [Formula.replacePlaceholders, AtomicF.replacePlaceholders, Formula.substSym, AtomicF.substSym]
      have : a.args.map (GTerm.replacePlaceholders m) = a.args.map (GTerm.substSym (phTheta m)) :=
        List.map_congr_left fun t _ => GTerm.replacePlaceholders_eq m t
      rw [this]
    | cmp t gs =>
      simp only [Formula.replacePlaceholders, AtomicF.replacePlaceholders, Formula.substSym, AtomicF.substSym,
        GTerm.replacePlaceholders_eq]
  | not f ih => simp [Formula.replacePlaceholders, Formula.substSym, ih]
  | bin c l r ihl ihr => simp [Formula.replacePlaceholders, Formula.substSym, ihl, ihr]
  | quant q vs f ih => simp [Formula.replacePlaceholders, Formula.substSym, ih]

def ClosedSubst (θ : String → GTerm) : Prop := ∀ s, (θ s).vars = [] ∧ (θ s).asVar? = none

theorem GTerm.sym_or_fixed (t : GTerm) : (∃ s, t = .symb (.sym s)) ∨ ∀ θ : String → GTerm, t.substSym θ = t := by
  cases t with
  | symb st =>
    cases st with
    | sym s => exact Or.inl ⟨s, rfl⟩
    | fc c => exact Or.inr fun _ => rfl
    | var v => exact Or.inr fun _ => rfl
  | inf | sup | fc _ | var _ | int _ => exact Or.inr fun _ => rfl

theorem GTerm.vars_substSym {θ : String → GTerm} (hθ : ClosedSubst θ) (t : GTerm) : (t.substSym θ).vars = t.vars := by
  rcases t.sym_or_fixed with ⟨s, rfl⟩ | h
  · exact (hθ s).1
  · rw [h]

theorem GTerm.asVar_substSym {θ : String → GTerm} (hθ : ClosedSubst θ) (t : GTerm) : (t.substSym θ).asVar? = t.asVar? := by
  rcases t.sym_or_fixed with ⟨s, rfl⟩ | h
  · exact (hθ s).2
  · rw [h]

theorem foldl_map_congr {α β γ : Type} (f : γ → β → γ) (g : γ → α → γ) (h : α → β) (hfg : ∀ acc a, f acc (h a) = g acc a) :
    ∀ (l : List α) (init : γ), (l.map h).foldl f init = l.foldl g init := by
  intro l
  induction l with
  | nil => intro _; rfl
  | cons a l ih => intro init; simp only [List.map_cons, List.foldl_cons, hfg, ih]

theorem AtomicF.vars_substSym {θ : String → GTerm} (hθ : ClosedSubst θ) (a : AtomicF) : (a.substSym θ).vars = a.vars := by
  cases a with
  | tru | fls => rfl
  | atom a =>
    simp only [AtomicF.substSym, AtomicF.vars]
    exact foldl_map_congr _ _ _ (fun acc t => by rw [GTerm.vars_substSym hθ]) a.args []
  | cmp t gs =>
    simp only [AtomicF.substSym, AtomicF.vars, GTerm.vars_substSym hθ]
    exact foldl_map_congr _ _ _ (fun acc g => by simp only [GTerm.vars_substSym hθ]) gs t.vars

theorem AtomicF.preds_substSym (θ : String → GTerm) (a : AtomicF) : (a.substSym θ).preds = a.preds := by
  cases a with
  | tru | fls => rfl
  | atom a => simp [AtomicF.substSym, AtomicF.preds, Atom.predicate]
  | cmp t gs => rfl

theorem Formula.vars_substSym {θ : String → GTerm} (hθ : ClosedSubst θ) : ∀ F : Formula, (F.substSym θ).vars = F.vars := by
  intro F
  induction F with
  | atomic a => exact AtomicF.vars_substSym hθ a
  | not f ih => exact ih
  | bin c l r ihl ihr => simp only [Formula.substSym, Formula.vars, ihl, ihr]
  | quant q vs f ih => exact ih

theorem Formula.fv_substSym {θ : String → GTerm} (hθ : ClosedSubst θ) : ∀ F : Formula, (F.substSym θ).fv = F.fv := by
  intro F
  induction F with
  | atomic a => exact AtomicF.vars_substSym hθ a
  | not f ih => exact ih
  | bin c l r ihl ihr => simp only [Formula.substSym, Formula.fv, ihl, ihr]
  | quant q vs f ih => simp only [Formula.substSym, Formula.fv, ih]

theorem Formula.preds_substSym (θ : String → GTerm) : ∀ F : Formula, (F.substSym θ).preds = F.preds := by
  intro F
  induction F with
  | atomic a => exact AtomicF.preds_substSym θ a
  | not f ih => exact ih
  | bin c l r ihl ihr => simp only [Formula.substSym, Formula.preds, ihl, ihr]
  | quant q vs f ih => exact ih

theorem quantify_substSym (θ : String → GTerm) (f : Formula) (q : Quant) (vs : List Var) :
    (f.quantify q vs).substSym θ = (f.substSym θ).quantify q vs := by
  unfold Formula.quantify
  split <;> rfl

theorem GTerm.eval_substSym_congr (fc : FcI) (θ1 θ2 : String → GTerm)
    (h : ∀ s ρ, (θ1 s).eval fc ρ = (θ2 s).eval fc ρ) (t : GTerm) (ρ : Asg) :
    (t.substSym θ1).eval fc ρ = (t.substSym θ2).eval fc ρ := by
  rcases t.sym_or_fixed with ⟨s, rfl⟩ | h'
  · exact h s ρ
  · rw [h', h']

theorem cmpChain_substSym_congr (fc : FcI) (θ1 θ2 : String → GTerm)
    (h : ∀ s ρ, (θ1 s).eval fc ρ = (θ2 s).eval fc ρ) (ρ : Asg) : ∀ (gs : List Guard) (d : Dom),
    cmpChain fc ρ d (gs.map fun g => ⟨g.rel, g.term.substSym θ1⟩) ↔
      cmpChain fc ρ d (gs.map fun g => ⟨g.rel, g.term.substSym θ2⟩) := by
  intro gs
  induction gs with
  | nil => intro _; exact Iff.rfl
  | cons g gs ih =>
    intro d
    simp only [List.map_cons, cmpChain, GTerm.eval_substSym_congr fc θ1 θ2 h g.term ρ, ih]

theorem AtomicF.sat_substSym_congr (P : PredI) (fc : FcI) (θ1 θ2 : String → GTerm)
    (h : ∀ s ρ, (θ1 s).eval fc ρ = (θ2 s).eval fc ρ) (a : AtomicF) (ρ : Asg) :
    (a.substSym θ1).sat P fc ρ ↔ (a.substSym θ2).sat P fc ρ := by
  cases a with
  | tru | fls => exact Iff.rfl
  | atom a =>
    simp only [AtomicF.substSym, AtomicF.sat, List.map_map]
    have : a.args.map (GTerm.eval fc ρ ∘ GTerm.substSym θ1) = a.args.map (GTerm.eval fc ρ ∘ GTerm.substSym θ2) :=
      List.map_congr_left fun t _ => GTerm.eval_substSym_congr fc θ1 θ2 h t ρ
    rw [this]
  | cmp t gs =>
    simp only [AtomicF.substSym, AtomicF.sat, GTerm.eval_substSym_congr fc θ1 θ2 h t ρ]
    exact cmpChain_substSym_congr fc θ1 θ2 h ρ gs _

theorem sat_substSym_congr (I : Interp) (θ1 θ2 : String → GTerm)
    (h : ∀ s ρ, (θ1 s).eval I.fc ρ = (θ2 s).eval I.fc ρ) : ∀ (F : Formula) (ρ : Asg),
    sat I (F.substSym θ1) ρ ↔ sat I (F.substSym θ2) ρ := by
  intro F
  induction F with
  | atomic a => intro ρ; exact AtomicF.sat_substSym_congr I.pred I.fc θ1 θ2 h a ρ
  | not f ih => intro ρ; simp only [Formula.substSym, sat, ih ρ]
  | bin c l r ihl ihr =>
    intro ρ
    cases c <;> simp only [Formula.substSym, sat, ihl ρ, ihr ρ]
  | quant q vs f ih =>
    intro ρ
    cases q
    · exact bindAll_congr ih ρ
    · exact bindEx_congr ih ρ

end Anthem
