/-
  C09: typing of the TFF trees anthem emits, against the declarations of the problem they belong to.
-/
import AnthemModel.Proofs.TffSem
import AnthemModel.Proofs.Agree
namespace Anthem

/-- what a problem declares, before identifiers are mangled: predicates (name/arity, all arguments
    of type `general`), symbolic constants (type `symbol`) and placeholders with their sort -/
structure TSig where
  preds : List Pred
  symbols : List String
  phs : List FnConst

def TInt.WT (S : TSig) (ctx : Var → Prop) : TInt → Prop
  | .num _ => True
  | .var x => ctx ⟨x, .integer⟩
  | .ph c => (⟨c, .integer⟩ : FnConst) ∈ S.phs
  | .uminus t => t.WT S ctx
  | .bin _ l r => l.WT S ctx ∧ r.WT S ctx

def TSym.WT (S : TSig) (ctx : Var → Prop) : TSym → Prop
  | .sym s => s ∈ S.symbols
  | .ph c => (⟨c, .symbol⟩ : FnConst) ∈ S.phs
  | .var x => ctx ⟨x, .symbol⟩

def TGen.WT (S : TSig) (ctx : Var → Prop) : TGen → Prop
  | .inf | .sup => True
  | .ph c => (⟨c, .general⟩ : FnConst) ∈ S.phs
  | .var x => ctx ⟨x, .general⟩
  | .ofInt t => t.WT S ctx
  | .ofSym t => t.WT S ctx

/-- an atom type-checks: predicate declared at the arity it is used at with `general` arguments;
    `$less`… take two `$int`, `=`/`!=` two terms of one sort, `p__less__`… two `general` -/
def TAtom.WT (S : TSig) (ctx : Var → Prop) : TAtom → Prop
  | .tru | .fls => True
  | .pred p args => (⟨p, args.length⟩ : Pred) ∈ S.preds ∧ ∀ t ∈ args, t.WT S ctx
  | .relI _ l r => l.WT S ctx ∧ r.WT S ctx
  | .eqS _ l r => l.WT S ctx ∧ r.WT S ctx
  | .relG _ l r => l.WT S ctx ∧ r.WT S ctx

/-- every variable occurrence is in the scope of a quantifier binding it at the sort of the occurrence -/
def TForm.WT (S : TSig) : (Var → Prop) → TForm → Prop
  | ctx, .chain as => ∀ a ∈ as, a.WT S ctx
  | ctx, .not f => f.WT S ctx
  | ctx, .bin _ l r => l.WT S ctx ∧ r.WT S ctx
  | ctx, .quant _ vs f => f.WT S (fun v => v ∈ vs ∨ ctx v)

def Formula.Declared (S : TSig) (F : Formula) : Prop :=
  (∀ q ∈ F.preds, q ∈ S.preds) ∧ (∀ s ∈ F.symbols, s ∈ S.symbols) ∧ (∀ c ∈ F.fcs, c ∈ S.phs)

theorem forall_mem_ext {α} [DecidableEq α] {s t : List α} {p : α → Prop} (h : ∀ x ∈ ext s t, p x) :
    (∀ x ∈ s, p x) ∧ ∀ x ∈ t, p x :=
  ⟨fun x hx => h x (mem_ext.mpr (Or.inl hx)), fun x hx => h x (mem_ext.mpr (Or.inr hx))⟩

theorem forall_mem_foldl_ext {α β} [DecidableEq β] {f : α → List β} {xs : List α} {init : List β}
    {p : β → Prop} (h : ∀ x ∈ xs.foldl (fun acc t => ext acc (f t)) init, p x) :
    (∀ x ∈ init, p x) ∧ ∀ t ∈ xs, ∀ x ∈ f t, p x :=
  ⟨fun x hx => h x ((mem_foldl_ext f xs init x).mpr (Or.inl hx)),
   fun t ht x hx => h x ((mem_foldl_ext f xs init x).mpr (Or.inr ⟨t, ht, hx⟩))⟩

theorem trI_WT (S : TSig) (ctx : Var → Prop) : ∀ t : ITerm, (∀ v ∈ t.vars, ctx v) → (∀ c ∈ t.fcs, c ∈ S.phs) →
    (trI t).WT S ctx := by
  intro t
  induction t with
  | num n => intro _ _; rw [trI]; split <;> trivial
  | var x => exact fun h _ => h _ List.mem_cons_self
  | fc c => exact fun _ h => h _ List.mem_cons_self
  | neg t ih => exact ih
  | bin op l r ihl ihr =>
    exact fun h1 h2 =>
      ⟨ihl (forall_mem_ext h1).1 (forall_mem_ext h2).1, ihr (forall_mem_ext h1).2 (forall_mem_ext h2).2⟩

def GTermOK (S : TSig) (ctx : Var → Prop) (t : GTerm) : Prop :=
  (∀ v ∈ t.vars, ctx v) ∧ (∀ s ∈ t.symbols, s ∈ S.symbols) ∧ (∀ c ∈ t.fcs, c ∈ S.phs)

theorem trS_WT (S : TSig) (ctx : Var → Prop) (t : STerm) (h : GTermOK S ctx (.symb t)) : (trS t).WT S ctx := by
  cases t with
  | sym s => exact h.2.1 s List.mem_cons_self
  | fc c => exact h.2.2 _ List.mem_cons_self
  | var x => exact h.1 _ List.mem_cons_self

theorem trG_WT (S : TSig) (ctx : Var → Prop) (t : GTerm) (h : GTermOK S ctx t) : (trG t).WT S ctx := by
  cases t with
  | inf | sup => trivial
  | fc c => exact h.2.2 _ List.mem_cons_self
  | var x => exact h.1 _ List.mem_cons_self
  | int t => exact trI_WT S ctx t h.1 h.2.2
  | symb t => exact trS_WT S ctx t h

theorem trIndividual_WT (S : TSig) (ctx : Var → Prop) (l : GTerm) (r : Rel) (rhs : GTerm)
    (hl : GTermOK S ctx l) (hr : GTermOK S ctx rhs) : (trIndividual l r rhs).WT S ctx := by
  refine trIndividual_ind r
    (motive := fun l rhs a => GTermOK S ctx l → GTermOK S ctx rhs → a.WT S ctx) ?_ ?_ ?_ l rhs hl hr
  · exact fun a b hl hr => ⟨trI_WT S ctx a hl.1 hl.2.2, trI_WT S ctx b hr.1 hr.2.2⟩
  · exact fun a b _ hl hr => ⟨trS_WT S ctx a hl, trS_WT S ctx b hr⟩
  · exact fun l rhs _ hl hr => ⟨trG_WT S ctx l hl, trG_WT S ctx rhs hr⟩

theorem mem_foldl_ext_nil {α β} [DecidableEq β] (f : α → List β) (xs : List α) (x : β) :
    x ∈ xs.foldl (fun acc t => ext acc (f t)) [] ↔ ∃ t ∈ xs, x ∈ f t :=
  (mem_foldl_ext f xs [] x).trans (or_iff_right List.not_mem_nil)

theorem individuals_OK (S : TSig) (ctx : Var → Prop) : ∀ (gs : List Guard) (t : GTerm),
    GTermOK S ctx t → (∀ g ∈ gs, GTermOK S ctx g.term) →
    ∀ p ∈ individuals t gs, GTermOK S ctx p.1 ∧ GTermOK S ctx p.2.2 := by
  intro gs
  induction gs with
  | nil => exact fun _ _ _ _ hp => nomatch hp
  | cons g gs ih =>
    intro t ht hgs p hp
    rcases List.mem_cons.mp hp with rfl | hp
    · exact ⟨ht, hgs g List.mem_cons_self⟩
    · exact ih g.term (hgs g List.mem_cons_self) (fun g' hg' => hgs g' (List.mem_cons_of_mem _ hg')) p hp

theorem trAtomic_WT (S : TSig) (ctx : Var → Prop) (a : AtomicF) (hv : ∀ v ∈ a.vars, ctx v)
    (hp : ∀ q ∈ a.preds, q ∈ S.preds) (hs : ∀ s ∈ a.symbols, s ∈ S.symbols) (hc : ∀ c ∈ a.fcs, c ∈ S.phs) :
    ∀ x ∈ trAtomic a, x.WT S ctx := by
  intro x hx
  cases a with
  | tru => obtain rfl := List.mem_singleton.mp hx; trivial
  | fls => obtain rfl := List.mem_singleton.mp hx; trivial
  | atom a =>
    obtain rfl := List.mem_singleton.mp hx
    have hargs : ∀ t ∈ a.args, GTermOK S ctx t := fun t ht =>
      ⟨(forall_mem_foldl_ext hv).2 t ht, (forall_mem_foldl_ext hs).2 t ht, (forall_mem_foldl_ext hc).2 t ht⟩
    refine ⟨?_, fun t ht => ?_⟩
    · rw [List.length_map]; exact hp _ List.mem_cons_self
    · obtain ⟨t0, ht0, rfl⟩ := List.mem_map.mp ht
      exact trG_WT S ctx t0 (hargs t0 ht0)
  | cmp t gs =>
    obtain ⟨p, hp', rfl⟩ := List.mem_map.mp hx
    have ht : GTermOK S ctx t :=
      ⟨(forall_mem_foldl_ext hv).1, (forall_mem_foldl_ext hs).1, (forall_mem_foldl_ext hc).1⟩
    have hgs : ∀ g ∈ gs, GTermOK S ctx g.term := fun g hg =>
      ⟨(forall_mem_foldl_ext hv).2 g hg, (forall_mem_foldl_ext hs).2 g hg, (forall_mem_foldl_ext hc).2 g hg⟩
    have ⟨h1, h2⟩ := individuals_OK S ctx gs t ht hgs p hp'
    exact trIndividual_WT S ctx p.1 p.2.1 p.2.2 h1 h2

theorem tr_WT (S : TSig) : ∀ (F : Formula) (ctx : Var → Prop), (∀ v, F.FV v → ctx v) → F.Declared S →
    (tr F).WT S ctx := by
  intro F
  induction F with
  | atomic a => exact fun ctx hfv hd => trAtomic_WT S ctx a hfv hd.1 hd.2.1 hd.2.2
  | not f ih => exact ih
  | bin c l r ihl ihr =>
    intro ctx hfv hd
    exact ⟨ihl ctx (fun v hv => hfv v (Or.inl hv))
        ⟨(forall_mem_ext hd.1).1, (forall_mem_ext hd.2.1).1, (forall_mem_ext hd.2.2).1⟩,
      ihr ctx (fun v hv => hfv v (Or.inr hv))
        ⟨(forall_mem_ext hd.1).2, (forall_mem_ext hd.2.1).2, (forall_mem_ext hd.2.2).2⟩⟩
  | quant q vs f ih =>
    intro ctx hfv hd
    refine ih _ (fun v hv => ?_) hd
    by_cases hm : v ∈ vs
    · exact Or.inl hm
    · exact Or.inr (hfv v ⟨hv, hm⟩)

end Anthem
