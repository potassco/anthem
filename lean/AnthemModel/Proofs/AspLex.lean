/-
  Lexical facts for the mini-gringo round trip: the fuel arithmetic, white space, the shape of names
  and numerals, and what the lexers of Model/AspParse do on a token followed by a character that
  cannot continue it.
-/
import AnthemModel.Model.AspParse
import AnthemModel.Model.Print
namespace Anthem.Asp

/-! Every recursive call of the parsers consumes at least one character and costs at most two units of
fuel, so the character-level statements (here and in the files for the target language) ask for
`2 * length < fuel`. -/

theorem fuel_succ {n f : Nat} (h : n < f) : ∃ f0, f = f0 + 1 :=
  Nat.exists_eq_add_one.mpr (Nat.zero_lt_of_lt h)

theorem fuel_cons {n f : Nat} (h : 2 * (n + 1) < f) : ∃ f0, f = f0 + 1 ∧ 2 * n + 1 < f0 :=
  match f, h with
  | f0 + 1, h => ⟨f0, rfl, Nat.lt_of_succ_lt_succ (show 2 * n + 2 < f0 + 1 from Nat.mul_succ 2 n ▸ h)⟩

theorem fuel_cons2 {n f : Nat} (h : 2 * (n + 1) < f) : ∃ f1, f = f1 + 2 ∧ 2 * n < f1 := by
  obtain ⟨f0, rfl, h0⟩ := fuel_cons h
  obtain ⟨f1, rfl⟩ := fuel_succ h0
  exact ⟨f1, rfl, Nat.lt_of_succ_lt_succ h0⟩

theorem fuel_append_right {α : Type} {a b : List α} {f : Nat} (h : 2 * (a ++ b).length < f) :
    2 * b.length < f :=
  Nat.lt_of_le_of_lt (Nat.mul_le_mul_left 2 (List.length_append ▸ Nat.le_add_left _ _)) h

@[simp] theorem skip_nil : skip [] = [] := rfl

theorem skip_cons_ws {c : Char} (cs : List Char) (h : isWs c = true) : skip (c :: cs) = skip cs := by
  simp only [skip, skipAux, h, if_true]

@[simp] theorem skip_space (cs : List Char) : skip (' ' :: cs) = skip cs := skip_cons_ws cs (by decide)
@[simp] theorem skip_newline (cs : List Char) : skip ('\n' :: cs) = skip cs := skip_cons_ws cs (by decide)

def Solid (c : Char) : Prop := isWs c = false ∧ c ≠ '%'

instance (c : Char) : Decidable (Solid c) := inferInstanceAs (Decidable (_ ∧ _))

theorem skip_cons_solid {c : Char} (cs : List Char) (h : Solid c) : skip (c :: cs) = c :: cs := by
  simp only [skip, skipAux, h.1, h.2, Bool.false_eq_true, if_false]

def StartsSolid (cs : List Char) : Prop := ∃ c r, cs = c :: r ∧ Solid c

theorem skip_of_startsSolid {cs : List Char} (h : StartsSolid cs) : skip cs = cs := by
  obtain ⟨c, r, rfl, hc⟩ := h
  exact skip_cons_solid r hc

theorem skip_solid_or_nil (cs : List Char) : skip cs = [] ∨ StartsSolid (skip cs) := by
  suffices h : ∀ (b : Bool), skipAux b cs = [] ∨ StartsSolid (skipAux b cs) from h false
  induction cs with
  | nil => intro b; cases b <;> exact Or.inl rfl
  | cons c cs ih =>
    intro b
    cases b with
    | true =>
      simp only [skipAux]
      split
      · exact ih false
      · exact ih true
    | false =>
      simp only [skipAux]
      split
      · exact ih false
      · split
        · exact ih true
        · rename_i h1 h2
          exact Or.inr ⟨c, cs, rfl, (Bool.not_eq_true _).mp h1, h2⟩

theorem skip_idem (cs : List Char) : skip (skip cs) = skip cs := by
  rcases skip_solid_or_nil cs with h | h
  · rw [h]; rfl
  · exact skip_of_startsSolid h

theorem StartsSolid.append {cs : List Char} (h : StartsSolid cs) (r : List Char) : StartsSolid (cs ++ r) := by
  obtain ⟨c, r', rfl, hc⟩ := h
  exact ⟨c, r' ++ r, rfl, hc⟩

/-- white space and `%` come before the digits in the order of characters -/
theorem solid_of_ge {c : Char} (h : '0' ≤ c) : Solid c := by
  refine ⟨?_, fun e => ?_⟩
  · simp only [isWs, Bool.or_eq_false_iff, decide_eq_false_iff_not]
    refine ⟨⟨?_, ?_⟩, ?_⟩ <;> (intro e; subst e; exact absurd h (by decide))
  · subst e; exact absurd h (by decide)

def StopsAt (p : Char → Bool) (rest : List Char) : Prop := ∀ c r, rest = c :: r → p c = false

theorem takeWhile_append_stop {p : Char → Bool} {w rest : List Char} (hw : ∀ c ∈ w, p c = true)
    (hr : StopsAt p rest) : (w ++ rest).takeWhile p = w ∧ (w ++ rest).dropWhile p = rest := by
  rw [List.takeWhile_append_of_pos hw, List.dropWhile_append_of_pos hw]
  cases rest with
  | nil => exact ⟨List.append_nil w, rfl⟩
  | cons c r =>
    have hc : ¬ p c = true := by rw [hr c r rfl]; exact Bool.false_ne_true
    rw [List.takeWhile_cons_of_neg hc, List.dropWhile_cons_of_neg hc]
    exact ⟨List.append_nil w, rfl⟩

def NoId (rest : List Char) : Prop := StopsAt isIdChar rest

theorem NoId.alnum {rest : List Char} (h : NoId rest) : StopsAt Char.isAlphanum rest :=
  fun c r e => (Bool.or_eq_false_iff.mp (h c r e)).1

theorem NoId.digit {rest : List Char} (h : NoId rest) : StopsAt Char.isDigit rest :=
  fun c r e => (Bool.or_eq_false_iff.mp (h.alnum c r e)).2

theorem noId_cons {c : Char} (r : List Char) (h : isIdChar c = false) : NoId (c :: r) :=
  fun _ _ e => (List.cons.inj e).1 ▸ h

theorem noId_nil : NoId [] := fun _ _ e => by cases e

/-- the characters of a symbolic constant / predicate symbol: `_? [a-z] [A-Za-z0-9_]*` -/
def SymName (l : List Char) : Prop :=
  (∃ c w, l = c :: w ∧ c.isLower = true ∧ ∀ x ∈ w, isIdChar x = true) ∨
  (∃ c w, l = '_' :: c :: w ∧ c.isLower = true ∧ ∀ x ∈ w, isIdChar x = true)

/-- the characters of a variable: `[A-Z] [A-Za-z0-9]*` -/
def VarName (l : List Char) : Prop :=
  ∃ c w, l = c :: w ∧ c.isUpper = true ∧ ∀ x ∈ w, x.isAlphanum = true

theorem lower_ge {c : Char} (h : c.isLower = true) : 'a' ≤ c :=
  of_decide_eq_true (Bool.and_eq_true_iff.mp h).1

theorem upper_ge {c : Char} (h : c.isUpper = true) : 'A' ≤ c := (of_decide_eq_true h).1

theorem digit_ge {c : Char} (h : c.isDigit = true) : '0' ≤ c :=
  of_decide_eq_true (Bool.and_eq_true_iff.mp h).1

theorem lower_solid {c : Char} (h : c.isLower = true) : Solid c :=
  solid_of_ge (Char.le_trans (by decide) (lower_ge h))

theorem upper_solid {c : Char} (h : c.isUpper = true) : Solid c :=
  solid_of_ge (Char.le_trans (by decide) (upper_ge h))

theorem digit_solid {c : Char} (h : c.isDigit = true) : Solid c := solid_of_ge (digit_ge h)

theorem SymName.startsSolid {l : List Char} (h : SymName l) : StartsSolid l := by
  rcases h with ⟨c, w, rfl, hc, _⟩ | ⟨c, w, rfl, _, _⟩
  · exact ⟨c, w, rfl, lower_solid hc⟩
  · exact ⟨'_', c :: w, rfl, by decide⟩

theorem VarName.startsSolid {l : List Char} (h : VarName l) : StartsSolid l := by
  obtain ⟨c, w, rfl, hc, _⟩ := h
  exact ⟨c, w, rfl, upper_solid hc⟩

theorem lower_idChar {c : Char} (h : c.isLower = true) : isIdChar c = true := by
  simp only [isIdChar, Char.isAlphanum, Char.isAlpha, h, Bool.or_true, Bool.true_or]

theorem SymName.idChars {l : List Char} (h : SymName l) : ∀ x ∈ l, isIdChar x = true := by
  rcases h with ⟨c, w, rfl, hc, hw⟩ | ⟨c, w, rfl, hc, hw⟩
  · exact List.forall_mem_cons.mpr ⟨lower_idChar hc, hw⟩
  · exact List.forall_mem_cons.mpr ⟨by decide, List.forall_mem_cons.mpr ⟨lower_idChar hc, hw⟩⟩

theorem startsNotWord_true {cs : List Char} (h : startsNotWord cs = true) :
    ∃ rest, cs = 'n' :: 'o' :: 't' :: rest ∧ NoId rest := by
  unfold startsNotWord at h
  split at h
  · rename_i rest
    refine ⟨rest, rfl, ?_⟩
    split at h
    · exact noId_nil
    · exact noId_cons _ (Bool.not_eq_true' _ ▸ h)
  · cases h

theorem startsNegation_true {cs : List Char} (h : startsNegation cs = true) :
    ∃ rest, cs = 'n' :: 'o' :: 't' :: rest ∧ ∀ c r, rest = c :: r → isWs c = true := by
  unfold startsNegation at h
  split at h
  · rename_i rest
    refine ⟨rest, rfl, ?_⟩
    split at h
    · exact fun _ _ e => by cases e
    · exact fun _ _ e => (List.cons.inj e).1 ▸ h
  · cases h

theorem isWs_not_idChar {c : Char} (h : isWs c = true) : isIdChar c = false := by
  simp only [isWs, Bool.or_eq_true, decide_eq_true_eq] at h
  rcases h with (rfl | rfl) | rfl <;> decide

/-- a name followed by a non-identifier character is the longest run of identifier characters of the
    text, so it is `not` only if the text begins with the word `not` -/
theorem startsNotWord_name (l rest : List Char) (hl : ∀ x ∈ l, isIdChar x = true)
    (hne : l ≠ ['n', 'o', 't']) (hr : NoId rest) : startsNotWord (l ++ rest) = false := by
  apply Bool.eq_false_iff.mpr
  intro h
  obtain ⟨rest', e, hr'⟩ := startsNotWord_true h
  have h1 := (takeWhile_append_stop hl hr).1
  rw [e] at h1
  exact hne (h1.symm.trans (takeWhile_append_stop (w := ['n', 'o', 't']) (by decide) hr').1)

theorem startsNegation_name (l rest : List Char) (hl : ∀ x ∈ l, isIdChar x = true)
    (hne : l ≠ ['n', 'o', 't']) (hr : NoId rest) : startsNegation (l ++ rest) = false := by
  apply Bool.eq_false_iff.mpr
  intro h
  obtain ⟨rest', e, hr'⟩ := startsNegation_true h
  have := startsNotWord_name l rest hl hne hr
  rw [e] at this
  cases rest' with
  | nil => cases this
  | cons c r => simp only [startsNotWord, isWs_not_idChar (hr' c r rfl)] at this; cases this

theorem lexSymbol_cons {c : Char} (r : List Char) (hu : c ≠ '_') :
    lexSymbol (c :: r) = if startsNotWord (c :: r) then none else
      if c.isLower then some (c :: r.takeWhile isIdChar, r.dropWhile isIdChar) else none := by
  unfold lexSymbol
  split
  · rfl
  · split
    · rename_i heq; exact absurd (List.cons.inj heq).1 hu
    · rename_i heq; cases heq; rfl
    · rename_i heq; cases heq

theorem lexSymbol_none_of_head {c : Char} (r : List Char) (h1 : c.isLower = false) (h2 : c ≠ '_') :
    lexSymbol (c :: r) = none := by
  rw [lexSymbol_cons r h2, h1, if_neg Bool.false_ne_true, ite_self]

theorem lexSymbol_append (l rest : List Char) (h : SymName l) (hne : l ≠ ['n', 'o', 't']) (hr : NoId rest) :
    lexSymbol (l ++ rest) = some (l, rest) := by
  have hnw := startsNotWord_name l rest h.idChars hne hr
  rcases h with ⟨c, w, rfl, hc, hw⟩ | ⟨c, w, rfl, hc, hw⟩
  · obtain ⟨t1, t2⟩ := takeWhile_append_stop hw hr
    have hcu : c ≠ '_' := by intro e; subst e; revert hc; decide
    rw [List.cons_append] at hnw ⊢
    rw [lexSymbol_cons _ hcu, hnw, hc, t1, t2]
    rfl
  · obtain ⟨t1, t2⟩ := takeWhile_append_stop hw hr
    rw [List.cons_append, List.cons_append] at hnw ⊢
    simp only [lexSymbol, hnw, Bool.false_eq_true, if_false, hc, if_true, t1, t2]

theorem lexVariable_append (l rest : List Char) (h : VarName l) (hr : NoId rest) :
    lexVariable (l ++ rest) = some (l, rest) := by
  obtain ⟨c, w, rfl, hc, hw⟩ := h
  obtain ⟨t1, t2⟩ := takeWhile_append_stop hw hr.alnum
  simp only [List.cons_append, lexVariable, hc, if_true, t1, t2]

theorem nonzeroDigit_ne_zero {c : Char} (h : isNonzeroDigit c = true) : c ≠ '0' ∧ c ≠ '-' ∧ c.isDigit = true := by
  simp only [isNonzeroDigit, Bool.and_eq_true, bne_iff_ne, ne_eq] at h
  refine ⟨h.2, ?_, h.1⟩
  intro e; subst e; revert h; decide

theorem lexInteger_digits {c : Char} (r : List Char) (hc : isNonzeroDigit c = true) :
    lexInteger (c :: r) =
      some (((Nat.ofDigitChars 10 (c :: r.takeWhile Char.isDigit) 0 : Nat) : Int), r.dropWhile Char.isDigit) := by
  obtain ⟨h0, hminus, _⟩ := nonzeroDigit_ne_zero hc
  unfold lexInteger
  split
  · rename_i heq; exact absurd (List.cons.inj heq).1 h0
  · rename_i heq; exact absurd (List.cons.inj heq).1 hminus
  · rename_i heq; cases heq; simp only [hc, if_true]
  · rename_i heq; cases heq

theorem lexInteger_minus {c : Char} (r : List Char) (hc : isNonzeroDigit c = true) :
    lexInteger ('-' :: c :: r) =
      some (- ((Nat.ofDigitChars 10 (c :: r.takeWhile Char.isDigit) 0 : Nat) : Int), r.dropWhile Char.isDigit) := by
  simp only [lexInteger, hc, if_true]

theorem lexInteger_minus_none {c : Char} (r : List Char) (hc : isNonzeroDigit c = false) :
    lexInteger ('-' :: c :: r) = none := by
  simp only [lexInteger, hc, Bool.false_eq_true, if_false]

theorem lexInteger_none_of_head {c : Char} (r : List Char) (h0 : c ≠ '0') (hminus : c ≠ '-')
    (hc : isNonzeroDigit c = false) : lexInteger (c :: r) = none := by
  unfold lexInteger
  split
  · rename_i heq; exact absurd (List.cons.inj heq).1 h0
  · rename_i heq; exact absurd (List.cons.inj heq).1 hminus
  · rename_i heq; cases heq; simp only [hc, Bool.false_eq_true, if_false]
  · rfl

theorem toDigits_all_digit (n : Nat) : ∀ c ∈ Nat.toDigits 10 n, c.isDigit = true :=
  fun _ hc => Nat.isDigit_of_mem_toDigits (by decide) (by decide) hc

theorem toDigits_head_nonzero : ∀ n : Nat, 0 < n →
    ∃ c ds, Nat.toDigits 10 n = c :: ds ∧ isNonzeroDigit c = true := by
  intro n
  induction n using Nat.strongRecOn with
  | _ n ih =>
    intro hn
    by_cases hlt : n < 10
    · refine ⟨n.digitChar, [], Nat.toDigits_of_lt_base hlt, ?_⟩
      have hd : n.digitChar.isDigit = true := by rw [Nat.isDigit_digitChar]; exact decide_eq_true hlt
      simp only [isNonzeroDigit, Bool.and_eq_true, hd, true_and, bne_iff_ne, ne_eq, Nat.digitChar_eq_zero]
      omega
    · have hq : 0 < n / 10 := Nat.div_pos (by omega) (by decide)
      obtain ⟨c, ds, hcd, hc⟩ := ih (n / 10) (Nat.div_lt_self hn (by decide)) hq
      have happ := Nat.toDigits_append_toDigits (b := 10) (n := n / 10) (d := n % 10) (by decide) hq
        (Nat.mod_lt _ (by decide))
      rw [Nat.div_add_mod] at happ
      refine ⟨c, ds ++ Nat.toDigits 10 (n % 10), ?_, hc⟩
      rw [← happ, hcd]; rfl

theorem intL_nonneg (m : Nat) : (toString (Int.ofNat m)).toList = Nat.toDigits 10 m := by
  rw [Int.toString_eq_repr, Int.repr_eq_if]
  simp [Nat.toList_repr]

theorem intL_neg (m : Nat) : (toString (Int.negSucc m)).toList = '-' :: Nat.toDigits 10 (m + 1) := by
  rw [Int.toString_eq_repr, Int.repr_eq_if]
  have : ¬ (0 : Int) ≤ Int.negSucc m := by omega
  simp only [this, if_false, String.toList_append]
  have e : (-Int.negSucc m).toNat = m + 1 := by omega
  rw [e, Nat.toList_repr]; rfl

theorem lexInteger_toDigits (m : Nat) (hm : 0 < m) (rest : List Char) (hr : StopsAt Char.isDigit rest) :
    ∃ c ds, Nat.toDigits 10 m = c :: ds ∧ isNonzeroDigit c = true ∧
      Nat.ofDigitChars 10 (c :: (ds ++ rest).takeWhile Char.isDigit) 0 = m ∧
      (ds ++ rest).dropWhile Char.isDigit = rest := by
  obtain ⟨c, ds, hcd, hc⟩ := toDigits_head_nonzero m hm
  have hds : ∀ x ∈ ds, x.isDigit = true := fun x hx =>
    toDigits_all_digit m x (by rw [hcd]; exact List.mem_cons_of_mem _ hx)
  obtain ⟨t1, t2⟩ := takeWhile_append_stop hds hr
  exact ⟨c, ds, hcd, hc, by rw [t1, ← hcd]; exact Nat.ofDigitChars_ten_toDigits, t2⟩

theorem lexInteger_append (n : Int) (rest : List Char) (hr : StopsAt Char.isDigit rest) :
    lexInteger ((toString n).toList ++ rest) = some (n, rest) := by
  cases n with
  | ofNat m =>
    rw [intL_nonneg]
    cases m with
    | zero => rfl
    | succ m =>
      obtain ⟨c, ds, hcd, hc, hval, hdrop⟩ := lexInteger_toDigits (m + 1) (Nat.succ_pos m) rest hr
      rw [hcd, List.cons_append, lexInteger_digits _ hc, hval, hdrop]
      rfl
  | negSucc m =>
    rw [intL_neg]
    obtain ⟨c, ds, hcd, hc, hval, hdrop⟩ := lexInteger_toDigits (m + 1) (Nat.succ_pos m) rest hr
    rw [hcd, List.cons_append, List.cons_append, lexInteger_minus _ hc, hval, hdrop]
    rfl

end Anthem.Asp
