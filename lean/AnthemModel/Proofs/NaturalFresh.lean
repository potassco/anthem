/-
  The fresh interval variables `N<i>` / `N<i>_<j>` of a head atom are pairwise distinct and occur in
  none of its terms (`HeadFreshOK`), for every head atom.
-/
import AnthemModel.Proofs.NaturalSem
namespace Anthem
open Asp

theorem digits_no_underscore (n : Nat) : '_' ∉ (toString n).toList := by
  rw [Nat.toString_eq_repr, Nat.toList_repr]
  exact Nat.underscore_not_in_toDigits

theorem split_at_sep {α} {a : α} : ∀ {l₁ l₁' l₂ l₂' : List α}, a ∉ l₁ → a ∉ l₁' →
    l₁ ++ a :: l₂ = l₁' ++ a :: l₂' → l₁ = l₁' := by
  intro l₁
  induction l₁ with
  | nil =>
    intro l₁' _ _ _ h2 h
    cases l₁' with
    | nil => rfl
    | cons b l₁' => exact absurd (List.mem_cons.mpr (Or.inl (List.cons.inj h).1)) h2
  | cons b l₁ ih =>
    intro l₁' _ _ h1 h2 h
    cases l₁' with
    | nil => exact absurd (List.mem_cons.mpr (Or.inl (List.cons.inj h).1.symm)) h1
    | cons c l₁' =>
      obtain ⟨e1, e2⟩ := List.cons.inj h
      rw [e1, ih (fun hm => h1 (List.mem_cons_of_mem _ hm)) (fun hm => h2 (List.mem_cons_of_mem _ hm)) e2]

def NForm (i : Nat) (s : String) : Prop :=
  s = "N" ++ toString i ∨ ∃ j : Nat, s = "N" ++ toString i ++ "_" ++ toString j

theorem nform_index {i i' : Nat} {s : String} (h : NForm i s) (h' : NForm i' s) : i = i' := by
  have key : ∀ (x y : String), "N" ++ x = "N" ++ y → x.toList = y.toList := by
    intro x y e
    have := congrArg String.toList e
    simpa [String.toList_append] using this
  rcases h with rfl | ⟨j, rfl⟩ <;> rcases h' with e | ⟨j', e⟩
  · have := key _ _ e
    exact Nat.repr_injective (String.ext_iff.mpr (by simpa using this))
  · rw [String.append_assoc, String.append_assoc] at e
    have := key _ _ e
    have hm : '_' ∈ (toString i).toList := by
      rw [this]; simp [String.toList_append]
    exact absurd hm (digits_no_underscore i)
  · rw [String.append_assoc, String.append_assoc] at e
    have := key _ _ e
    have hm : '_' ∈ (toString i').toList := by
      rw [← this]; simp [String.toList_append]
    exact absurd hm (digits_no_underscore i')
  · rw [String.append_assoc, String.append_assoc, String.append_assoc, String.append_assoc] at e
    have := key _ _ e
    simp only [String.toList_append, String.reduceToList, List.cons_append, List.nil_append] at this
    have := split_at_sep (digits_no_underscore i) (digits_no_underscore i') this
    exact Nat.repr_injective (String.ext_iff.mpr (by simpa using this))

theorem searchNj_spec (taken : List String) (i : Nat) : ∀ (fuel j0 : Nat),
    (∃ j, j0 ≤ j ∧ j ≤ j0 + fuel ∧ "N" ++ toString i ++ "_" ++ toString j ∉ taken) →
    searchNj taken i fuel j0 ∉ taken ∧ ∃ j : Nat, searchNj taken i fuel j0 = "N" ++ toString i ++ "_" ++ toString j := by
  intro fuel
  induction fuel with
  | zero =>
    intro j0 ⟨j, h1, h2, h3⟩
    rw [Nat.le_antisymm h2 h1] at h3
    exact ⟨h3, j0, rfl⟩
  | succ fuel ih =>
    intro j0 ⟨j, h1, h2, h3⟩
    simp only [searchNj]
    split
    · rename_i hm
      have hne : j0 ≠ j := fun e => h3 (e ▸ hm)
      exact ih (j0 + 1) ⟨j, Nat.lt_of_le_of_ne h1 hne, Nat.add_right_comm j0 1 fuel ▸ h2, h3⟩
    · rename_i hm
      exact ⟨hm, j0, rfl⟩

theorem searchNj_fresh (taken : List String) (i : Nat) :
    searchNj taken i (taken.length + 1) 0 ∉ taken ∧ NForm i (searchNj taken i (taken.length + 1) 0) := by
  obtain ⟨j, h1, h2, h3⟩ := exists_free_candidate ("N" ++ toString i ++ "_") taken 0
  obtain ⟨h, j', e⟩ := searchNj_spec taken i (taken.length + 1) 0
    ⟨j, h1, Nat.le_trans h2 (Nat.add_le_add_left (Nat.le_succ _) 0), h3⟩
  exact ⟨h, Or.inr ⟨j', e⟩⟩

/-- the body of `freshVarsForHeadAtom` -/
def freshName (taken : List String) (p : Nat × Term) : Option String :=
  if !regFirst p.2 then
    (if "N" ++ toString p.1 ∈ taken then some (searchNj taken p.1 (taken.length + 1) 0)
     else some ("N" ++ toString p.1))
  else none

theorem freshName_some {taken : List String} {k : Nat} {t : Term} {f : String}
    (h : freshName taken (k, t) = some f) : f ∉ taken ∧ NForm k f := by
  unfold freshName at h
  split at h
  · split at h
    · cases h; exact searchNj_fresh taken k
    · rename_i hm
      cases h
      exact ⟨hm, Or.inl rfl⟩
  · cases h

theorem freshNames_spec (taken : List String) : ∀ (k : Nat) (ts : List Term),
    (∀ f ∈ (indexFrom k ts).filterMap (freshName taken), f ∉ taken ∧ ∃ i, k ≤ i ∧ NForm i f) ∧
      ((indexFrom k ts).filterMap (freshName taken)).Nodup := by
  intro k ts
  induction ts generalizing k with
  | nil => exact ⟨fun _ hf => absurd hf List.not_mem_nil, List.nodup_nil⟩
  | cons t ts ih =>
    obtain ⟨ih1, ih2⟩ := ih (k + 1)
    have ih1' : ∀ f ∈ (indexFrom (k + 1) ts).filterMap (freshName taken),
        f ∉ taken ∧ ∃ i, k ≤ i ∧ NForm i f := fun f hf =>
      have ⟨h1, i, hi, hn⟩ := ih1 f hf
      ⟨h1, i, Nat.le_of_succ_le hi, hn⟩
    rw [indexFrom]
    cases hf : freshName taken (k, t) with
    | none => rw [List.filterMap_cons_none hf]; exact ⟨ih1', ih2⟩
    | some f =>
      obtain ⟨hf1, hf2⟩ := freshName_some hf
      rw [List.filterMap_cons_some hf]
      refine ⟨fun g hg => ?_, List.nodup_cons.mpr ⟨fun hm => ?_, ih2⟩⟩
      · rcases List.mem_cons.mp hg with rfl | hg
        · exact ⟨hf1, k, Nat.le_refl _, hf2⟩
        · exact ih1' g hg
      · obtain ⟨_, i, hi, hn⟩ := ih1 f hm
        exact Nat.not_succ_le_self k (nform_index hf2 hn ▸ hi)

theorem headFreshOK (a : Asp.Atom) : HeadFreshOK a := by
  obtain ⟨h1, h2⟩ := freshNames_spec a.vars 0 a.args
  exact ⟨h2, fun f hf t ht hx => (h1 f hf).1 (mem_atom_vars.mpr ⟨t, ht, hx⟩)⟩

/-- one formula of `mu(Π)`: natural where natural accepts the rule, tau* with the program's global
    variables otherwise -/
theorem mu_rule_sem (P : Program) (M : HTI) (hs : M.Sub) (w : World)
    (ρ : Asg) {r : Rule} (hr : r ∈ P) :
    ht M (match naturalRule r with
      | some f => f
      | none => tauStarRule r (chooseFreshGlobals P)) w ρ ↔ ruleSat M w r := by
  cases hnat : naturalRule r with
  | some F => exact naturalRule_sem M hs w r F hnat (fun a _ => headFreshOK a) ρ
  | none => exact tauStarRule_sem_of_mem P M w ρ hr

end Anthem
