/-
  C01, rule and program level: `tau_b`, `tau_star_rule` and `tau_star` have exactly the meaning the
  reference semantics of mini-gringo (Semantics/Asp.lean) gives to body atoms, rules and programs,
  at both worlds of every HT interpretation.
-/
import AnthemModel.Proofs.ValFresh
import AnthemModel.Proofs.RewritesBasic
import AnthemModel.Proofs.RewritesQuant
namespace Anthem
open Asp

theorem vals_congr {σ σ' : Subst} : ∀ (t : Term) (d : Dom), (∀ x ∈ t.vars, σ x = σ' x) →
    (vals σ t d ↔ vals σ' t d) := by
  intro t
  induction t with
  | pre p => intro d _; exact Iff.rfl
  | var x => intro d h; simp only [vals, h x (List.mem_singleton_self x)]
  | neg t ih => intro d h; simp only [vals, ih _ h]
  | bin op l r ihl ihr =>
    intro d h
    simp only [vals, ihl _ fun x hx => h x (mem_ext.mpr (Or.inl hx)),
      ihr _ fun x hx => h x (mem_ext.mpr (Or.inr hx))]

theorem valsList_congr {σ σ' : Subst} : ∀ (ts : List Term) (ds : List Dom),
    (∀ t ∈ ts, ∀ x ∈ t.vars, σ x = σ' x) → (valsList σ ts ds ↔ valsList σ' ts ds) := by
  intro ts
  induction ts with
  | nil => intro ds _; cases ds <;> exact Iff.rfl
  | cons t ts ih =>
    intro ds h
    cases ds with
    | nil => exact Iff.rfl
    | cons d ds =>
      exact and_congr (vals_congr t d (h t List.mem_cons_self))
        (ih ds fun t' ht' => h t' (List.mem_cons_of_mem _ ht'))

theorem valsList_length {σ : Subst} : ∀ {ts : List Term} {ds : List Dom}, valsList σ ts ds →
    ds.length = ts.length := by
  intro ts
  induction ts with
  | nil => intro ds h; cases ds with
    | nil => rfl
    | cons => exact h.elim
  | cons t ts ih => intro ds h; cases ds with
    | nil => exact h.elim
    | cons d ds => exact congrArg (· + 1) (ih h.2)

theorem exists_valsList_nil (σ : Subst) (Q : List Dom → Prop) :
    (∃ ds, valsList σ [] ds ∧ Q ds) ↔ Q [] := by
  constructor
  · rintro ⟨_ | _, hv, h⟩
    · exact h
    · exact hv.elim
  · exact fun h => ⟨[], trivial, h⟩

theorem mem_atom_vars {a : Asp.Atom} {x : String} : x ∈ a.vars ↔ ∃ t ∈ a.args, x ∈ t.vars := by
  unfold Atom.vars
  rw [mem_foldl_ext]
  exact or_iff_right (List.not_mem_nil)

def assignGen (ρ : Asg) : List String → List Dom → Asg
  | z :: zs, d :: ds => (assignGen ρ zs ds).set ⟨z, .general⟩ d
  | _, _ => ρ

theorem assignGen_other (ρ : Asg) : ∀ (zs : List String) (ds : List Dom) (v : Var),
    (∀ z ∈ zs, v ≠ ⟨z, .general⟩) → assignGen ρ zs ds v = ρ v := by
  intro zs
  induction zs with
  | nil => intro _ _ _; rfl
  | cons z zs ih =>
    intro ds v h
    cases ds with
    | nil => rfl
    | cons d ds =>
      rw [assignGen, Asg.set_other _ _ (h z List.mem_cons_self)]
      exact ih ds v fun z' hz' => h z' (List.mem_cons_of_mem _ hz')

theorem assignGen_map (ρ : Asg) : ∀ (zs : List String) (ds : List Dom), zs.Nodup → zs.length = ds.length →
    zs.map (fun z => assignGen ρ zs ds ⟨z, .general⟩) = ds := by
  intro zs
  induction zs with
  | nil => intro ds _ h; cases ds with
    | nil => rfl
    | cons => cases h
  | cons z zs ih =>
    intro ds hn hl
    cases ds with
    | nil => cases hl
    | cons d ds =>
      have hn' := List.nodup_cons.mp hn
      rw [List.map_cons, assignGen, Asg.set_same]
      refine congrArg (d :: ·) (Eq.trans (List.map_congr_left fun z' hz' => ?_)
        (ih ds hn'.2 (Nat.succ.inj hl)))
      exact Asg.set_other _ _ fun e => hn'.1 (by cases e; exact hz')

theorem allUpd_general (zs : List String) (ρ τ : Asg) :
    AllUpd (zs.map fun z => (⟨z, .general⟩ : Var)) ρ τ ↔ ∀ v, (∀ z ∈ zs, v ≠ ⟨z, .general⟩) → τ v = ρ v := by
  unfold AllUpd
  constructor
  · rintro ⟨h1, _⟩ v hv
    exact h1 v fun hm => by
      obtain ⟨z, hz, e⟩ := List.mem_map.mp hm
      exact hv z hz e.symm
  · intro h
    refine ⟨fun v hv => h v fun z hz e => hv (List.mem_map.mpr ⟨z, hz, e.symm⟩), fun v hv => ?_⟩
    obtain ⟨z, _, rfl⟩ := List.mem_map.mp hv
    trivial

theorem valsZip (M : HTI) (w : World) (τ : Asg) : ∀ (args : List Term) (zs : List String),
    args.length = zs.length →
    ((∀ g ∈ (args.zip zs).map (fun (t, z) => val t ⟨z, .general⟩), ht M g w τ) ↔
      valsList (σOf τ) args (zs.map fun z => τ ⟨z, .general⟩)) := by
  intro args
  induction args with
  | nil => intro zs h; cases zs with
    | nil => exact iff_of_true (fun _ h => nomatch h) trivial
    | cons => cases h
  | cons t ts ih =>
    intro zs h
    cases zs with
    | nil => cases h
    | cons z zs =>
      rw [List.zip_cons_cons, List.map_cons, List.forall_mem_cons, val_correct_general,
        ih zs (Nat.succ.inj h)]
      rfl

def signSem (M : HTI) (w : World) (s : Sign) (p : String) (ds : List Dom) : Prop :=
  match s with
  | .pos => M.at w p ds
  | .neg => ¬ M.t p ds
  | .negneg => M.t p ds

theorem bodyAtomSat_lit (M : HTI) (w : World) (σ : Subst) (s : Sign) (a : Asp.Atom) :
    bodyAtomSat M w σ (.lit ⟨s, a⟩) ↔ ∃ ds, valsList σ a.args ds ∧ signSem M w s a.pred ds := by
  cases s <;> exact Iff.rfl

theorem ht_signed (M : HTI) (w : World) (τ : Asg) (s : Sign) (p : String) (ts : List GTerm) :
    ht M (signed s (.atomic (.atom ⟨p, ts⟩))) w τ ↔ signSem M w s p (ts.map (GTerm.eval M.fc τ)) := by
  cases s
  · exact Iff.rfl
  · exact Iff.rfl
  · exact Classical.not_not

theorem eval_map_var (fc : FcI) (τ : Asg) (zs : List String) :
    (zs.map GTerm.var).map (GTerm.eval fc τ) = zs.map (σOf τ) := List.map_map

theorem convRel_holds (r : Asp.Rel) (a b : Dom) : (convRel r).holds a b ↔ r.holds a b := by
  cases r <;> rfl

/-- An ∃-block over fresh `zs` with the `val` conjuncts of `args` holds iff some tuple of values of
    `args` does what `F` says of `zs`. The shape of `tau_b` for a literal (`F` the signed atom over `zs`)
    and for a comparison (`F` the comparison of the two variables). -/
theorem bindEx_vals (M : HTI) (w : World) (ρ : Asg) (args : List Term) (zs : List String)
    (hn : zs.Nodup) (hfresh : ∀ z ∈ zs, ∀ t ∈ args, z ∉ t.vars) (hl : args.length = zs.length)
    (F : Formula) (Q : List Dom → Prop) (hF : ∀ τ, ht M F w τ ↔ Q (zs.map (σOf τ))) :
    ht M (.quant .ex (zs.map fun z => ⟨z, .general⟩)
      (.bin .and (conjoin ((args.zip zs).map fun (t, z) => val t ⟨z, .general⟩)) F)) w ρ ↔
      ∃ ds, valsList (σOf ρ) args ds ∧ Q ds := by
  have hcongr : ∀ {τ : Asg}, (∀ v, (∀ z ∈ zs, v ≠ ⟨z, .general⟩) → τ v = ρ v) →
      ∀ ds, valsList (σOf τ) args ds ↔ valsList (σOf ρ) args ds := fun hτ ds =>
    valsList_congr args ds fun t ht x hx => hτ _ fun z hz e => hfresh z hz t ht (by cases e; exact hx)
  have hvals := fun τ => (ht_conjoin M w τ _).trans (valsZip M w τ args zs hl)
  refine bindEx_iff.trans ⟨fun ⟨τ, hτ, hV, hQ⟩ => ?_, fun ⟨ds, hV, hQ⟩ => ?_⟩
  · exact ⟨_, (hcongr ((allUpd_general zs ρ τ).mp hτ) _).mp ((hvals τ).mp hV), (hF τ).mp hQ⟩
  · -- the witness assigns the value tuple to the fresh variables
    have hm : zs.map (σOf (assignGen ρ zs ds)) = ds :=
      assignGen_map ρ zs ds hn (hl.symm.trans (valsList_length hV).symm)
    refine ⟨assignGen ρ zs ds, (allUpd_general zs ρ _).mpr (assignGen_other ρ zs ds),
      (hvals _).mpr ?_, (hF _).mpr (hm.symm ▸ hQ)⟩
    exact hm.symm ▸ (hcongr (assignGen_other ρ zs ds) ds).mpr hV

theorem length_two {α} {l : List α} (h : l.length = 2) : ∃ a b, l = [a, b] := by
  rcases l with _ | ⟨a, _ | ⟨b, _ | _⟩⟩
  · cases h
  · cases h
  · exact ⟨a, b, rfl⟩
  · cases h

theorem tauB_sem (M : HTI) (w : World) (f : BodyAtom) (ρ : Asg) :
    ht M (tauB f) w ρ ↔ bodyAtomSat M w (σOf ρ) f := by
  cases f with
  | lit l =>
    obtain ⟨s, a⟩ := l
    rw [bodyAtomSat_lit]
    unfold tauB
    simp only
    split
    · obtain ⟨hn, hfresh, hlen⟩ := chooseFresh_spec (BodyAtom.lit ⟨s, a⟩).vars "Z" a.args.length
      exact bindEx_vals M w ρ a.args _ hn
        (fun z hz t ht hx => hfresh z hz (mem_atom_vars.mpr ⟨t, ht, hx⟩)) hlen.symm _ _
        fun τ => (ht_signed ..).trans (by rw [eval_map_var])
    · rename_i hpos
      have h0 : a.args = [] := List.eq_nil_of_length_eq_zero (Nat.eq_zero_of_not_pos hpos)
      rw [h0, exists_valsList_nil]
      exact ht_signed M w ρ s a.pred []
  | cmp rel l r =>
    unfold tauB
    simp only
    obtain ⟨hn, hfresh, hlen⟩ := chooseFresh_spec (BodyAtom.cmp rel l r).vars "Z" 2
    generalize chooseFresh (BodyAtom.cmp rel l r).vars "Z" 2 = zs at hn hfresh hlen
    obtain ⟨z1, z2, rfl⟩ := length_two hlen
    refine (bindEx_vals M w ρ [l, r] [z1, z2] hn ?_ rfl (cmp1 (.var z1) (convRel rel) (.var z2))
      -- the tuples that matter have length 2 (`valsList_length`), so the default `.inf` is never read
      (fun ds => rel.holds (ds.getD 0 .inf) (ds.getD 1 .inf))
      fun τ => (ht_cmp1 ..).trans (convRel_holds ..)).trans ?_
    · intro z hz t ht hx
      refine hfresh z hz (mem_ext.mpr ?_)
      rcases List.mem_cons.mp ht with rfl | ht
      · exact Or.inl hx
      · exact Or.inr (List.mem_singleton.mp ht ▸ hx)
    · constructor
      · rintro ⟨ds, hv, h⟩
        obtain ⟨a, b, rfl⟩ := length_two (valsList_length hv)
        exact ⟨a, b, hv.1, hv.2.1, h⟩
      · rintro ⟨a, b, ha, hb, h⟩
        exact ⟨[a, b], ⟨ha, hb, trivial⟩, h⟩

theorem tauBody_sem (M : HTI) (w : World) (b : List BodyAtom) (ρ : Asg) :
    ht M (tauBody b) w ρ ↔ bodySat M w (σOf ρ) b := by
  unfold tauBody bodySat
  rw [ht_conjoin, List.forall_mem_map]
  exact forall_congr' fun f => imp_congr_right fun _ => tauB_sem M w f ρ

theorem bodyAtomSat_congr (M : HTI) (w : World) {σ σ' : Subst} (f : BodyAtom)
    (h : ∀ x ∈ f.vars, σ x = σ' x) : bodyAtomSat M w σ f ↔ bodyAtomSat M w σ' f := by
  cases f with
  | lit l =>
    obtain ⟨s, a⟩ := l
    rw [bodyAtomSat_lit, bodyAtomSat_lit]
    exact exists_congr fun ds => and_congr_left fun _ => valsList_congr a.args ds
      fun t ht x hx => h x (mem_atom_vars.mpr ⟨t, ht, hx⟩)
  | cmp rel l r =>
    simp only [bodyAtomSat, vals_congr l _ fun x hx => h x (mem_ext.mpr (Or.inl hx)),
      vals_congr r _ fun x hx => h x (mem_ext.mpr (Or.inr hx))]

theorem mem_bodyVars {b : List BodyAtom} {x : String} : x ∈ bodyVars b ↔ ∃ f ∈ b, x ∈ f.vars := by
  unfold bodyVars
  rw [mem_foldl_ext]
  exact or_iff_right (List.not_mem_nil)

theorem bodySat_congr (M : HTI) (w : World) {σ σ' : Subst} (b : List BodyAtom)
    (h : ∀ x ∈ bodyVars b, σ x = σ' x) : bodySat M w σ b ↔ bodySat M w σ' b :=
  forall_congr' fun f => imp_congr_right fun hf =>
    bodyAtomSat_congr M w f fun x hx => h x (mem_bodyVars.mpr ⟨f, hf, hx⟩)

theorem mem_sortedGeneral {names : List String} {v : Var} :
    v ∈ sortedGeneral names ↔ ∃ x ∈ names, v = ⟨x, .general⟩ := by
  unfold sortedGeneral
  rw [mem_sortVars, List.mem_map]
  exact exists_congr fun x => and_congr_right fun _ => eq_comm

theorem bindAll_sortedGeneral (names : List String) (P : Subst → Prop)
    (hP : ∀ σ σ' : Subst, (∀ x ∈ names, σ x = σ' x) → (P σ ↔ P σ')) (ρ : Asg) :
    bindAll (sortedGeneral names) (fun τ => P (σOf τ)) ρ ↔ ∀ σ, P σ := by
  refine (bindAll_closed (fun τ τ' h => hP (σOf τ) (σOf τ') fun x hx =>
    h ⟨x, .general⟩ (mem_sortedGeneral.mpr ⟨x, hx, rfl⟩)) ρ).trans
    ⟨fun h (σ : Subst) => h (fun v => σ v.name) fun v hv => ?_, fun h τ _ => h _⟩
  obtain ⟨x, _, rfl⟩ := mem_sortedGeneral.mp hv
  trivial

theorem sortedGeneral_isEmpty {names : List String} (h : (sortedGeneral names).isEmpty = true) :
    names = [] := by
  cases names with
  | nil => rfl
  | cons x xs =>
    have : (⟨x, .general⟩ : Var) ∈ sortedGeneral (x :: xs) :=
      mem_sortedGeneral.mpr ⟨x, List.mem_cons_self, rfl⟩
    rw [List.isEmpty_iff.mp h] at this
    cases this

/-- the optional universal closure used for rules without head arguments -/
theorem close_sem (M : HTI) (w : World) (names : List String) (G : Formula) (P : Subst → Prop)
    (hG : ∀ τ, ht M G w τ ↔ P (σOf τ))
    (hP : ∀ σ σ' : Subst, (∀ x ∈ names, σ x = σ' x) → (P σ ↔ P σ')) (ρ : Asg) :
    ht M (if (sortedGeneral names).isEmpty then G else .quant .all (sortedGeneral names) G) w ρ ↔
      ∀ σ, P σ := by
  split
  · rename_i he
    have hn := sortedGeneral_isEmpty he
    subst hn
    rw [hG]
    exact ⟨fun h σ => (hP _ _ fun x hx => nomatch hx).mp h, fun h => h _⟩
  · exact (bindAll_congr hG ρ).trans (bindAll_sortedGeneral names P hP ρ)

theorem ht_atom_vars (M : HTI) (w : World) (τ : Asg) (p : String) (zs : List String) :
    ht M (.atomic (.atom ⟨p, zs.map GTerm.var⟩)) w τ ↔ M.at w p (zs.map (σOf τ)) := by
  rw [← eval_map_var M.fc]; rfl

theorem ht_notnot_atom_vars (M : HTI) (w : World) (τ : Asg) (p : String) (zs : List String) :
    ht M (.not (.not (.atomic (.atom ⟨p, zs.map GTerm.var⟩)))) w τ ↔ M.t p (zs.map (σOf τ)) :=
  Classical.not_not.trans (ht_atom_vars M .there τ p zs)

theorem head_vars_subset (r : Rule) (a : Asp.Atom) (h : r.head = .basic a ∨ r.head = .choice a) :
    ∀ t ∈ a.args, ∀ x ∈ t.vars, x ∈ r.vars := by
  intro t ht x hx
  refine mem_ext.mpr (Or.inl ?_)
  rcases h with h | h <;> rw [h] <;> exact mem_atom_vars.mpr ⟨t, ht, hx⟩

theorem body_vars_subset (r : Rule) : ∀ x ∈ bodyVars r.body, x ∈ r.vars :=
  fun _ hx => mem_ext.mpr (Or.inr hx)

/-- One instance of a rule for one value tuple `ds` of the head arguments. A choice head `{p(args)}`
    is the basic head under the extra premise that `ds` is in `p` at `there`. -/
def headInst (M : HTI) (w : World) (choice : Bool) (p : String) (args : List Term)
    (body : List BodyAtom) (σ : Subst) (ds : List Dom) : Prop :=
  valsList σ args ds → bodySat M w σ body → (choice = true → M.t p ds) → M.at w p ds

theorem headSat_iff (M : HTI) (w : World) (σ : Subst) (choice : Bool) (a : Asp.Atom) :
    headSat M w σ (if choice then .choice a else .basic a) ↔
      ∀ ds, valsList σ a.args ds → (choice = true → M.t a.pred ds) → M.at w a.pred ds := by
  cases choice
  · exact forall_congr' fun ds => imp_congr_right fun _ =>
      ⟨fun h _ => h, fun h => h fun e => nomatch e⟩
  · refine forall_congr' fun ds => imp_congr_right fun _ =>
      ⟨fun h ht => h.resolve_right (not_not_intro (ht rfl)), fun h => ?_⟩
    by_cases ht : M.t a.pred ds
    · exact Or.inl (h fun _ => ht)
    · exact Or.inr ht

theorem ruleSat_iff_headInst (M : HTI) (w : World) (choice : Bool) (a : Asp.Atom) (r : Rule)
    (hr : r.head = if choice then .choice a else .basic a) :
    ruleSat M w r ↔ ∀ σ ds, headInst M w choice a.pred a.args r.body σ ds ∧
      headInst M .there choice a.pred a.args r.body σ ds := by
  unfold ruleSat
  simp only [hr, headSat_iff, headInst]
  exact forall_congr' fun σ =>
    ⟨fun h ds => ⟨fun hv hb => h.1 hb ds hv, fun hv hb => h.2 hb ds hv⟩,
     fun h => ⟨fun hb ds hv => (h ds).1 hv hb, fun hb ds hv => (h ds).2 hv hb⟩⟩

theorem headInst_congr (M : HTI) (w : World) (choice : Bool) (a : Asp.Atom) (r : Rule)
    (hr : r.head = if choice then .choice a else .basic a) {σ σ' : Subst}
    (h : ∀ x ∈ r.vars, σ x = σ' x) (ds : List Dom) :
    headInst M w choice a.pred a.args r.body σ ds ↔ headInst M w choice a.pred a.args r.body σ' ds := by
  have hsub := head_vars_subset r a (by cases choice <;> simp [hr])
  unfold headInst
  rw [valsList_congr a.args ds fun t ht x hx => h x (hsub t ht x hx),
    bodySat_congr M w r.body fun x hx => h x (body_vars_subset r x hx)]

/-- the values of the fresh global variables `fvars` stand for an arbitrary value tuple of the head arguments -/
theorem headInst_globals (M : HTI) (w : World) (choice : Bool) (a : Asp.Atom) (r : Rule)
    (hr : r.head = if choice then .choice a else .basic a) (fvars : List String)
    (hn : fvars.Nodup) (hfresh : ∀ g ∈ fvars, g ∉ r.vars) (hlen : fvars.length = a.args.length) :
    (∀ σ, headInst M w choice a.pred a.args r.body σ (fvars.map σ)) ↔
      ∀ σ ds, headInst M w choice a.pred a.args r.body σ ds := by
  refine ⟨fun h σ ds hv => ?_, fun h σ => h σ _⟩
  have hm := assignGen_map (fun v => σ v.name) fvars ds hn (hlen.trans (valsList_length hv).symm)
  have := h (σOf (assignGen (fun v => σ v.name) fvars ds))
  rw [show fvars.map (σOf _) = ds from hm, headInst_congr M w choice a r hr (σ' := σ)] at this
  · exact this hv
  · exact fun x hx => assignGen_other _ fvars ds _ fun z hz e => hfresh z hz (by cases e; exact hx)

def headInsts (M : HTI) (w : World) (choice : Bool) (a : Asp.Atom) (r : Rule) (fvars : List String)
    (σ : Subst) : Prop :=
  headInst M w choice a.pred a.args r.body σ (fvars.map σ) ∧
    headInst M .there choice a.pred a.args r.body σ (fvars.map σ)

theorem headInsts_iff (M : HTI) (w : World) (choice : Bool) (a : Asp.Atom) (r : Rule)
    (hr : r.head = if choice then .choice a else .basic a) (fvars : List String)
    (hn : fvars.Nodup) (hfresh : ∀ g ∈ fvars, g ∉ r.vars) (hlen : fvars.length = a.args.length) :
    (∀ σ, headInsts M w choice a r fvars σ) ↔ ruleSat M w r := by
  unfold headInsts
  rw [ruleSat_iff_headInst M w choice a r hr, forall_and,
    headInst_globals M w choice a r hr fvars hn hfresh hlen,
    headInst_globals M .there choice a r hr fvars hn hfresh hlen]
  exact ⟨fun h σ ds => ⟨h.1 σ ds, h.2 σ ds⟩, fun h => ⟨fun σ ds => (h σ ds).1, fun σ ds => (h σ ds).2⟩⟩

theorem headInsts_congr (M : HTI) (w : World) (choice : Bool) (a : Asp.Atom) (r : Rule)
    (hr : r.head = if choice then .choice a else .basic a) (fvars : List String) (σ σ' : Subst)
    (h : ∀ x ∈ r.vars ++ fvars, σ x = σ' x) :
    headInsts M w choice a r fvars σ ↔ headInsts M w choice a r fvars σ' := by
  have hv : ∀ x ∈ r.vars, σ x = σ' x := fun x hx => h x (List.mem_append_left _ hx)
  unfold headInsts
  rw [List.map_congr_left fun x hx => h x (List.mem_append_right _ hx),
    headInst_congr M w choice a r hr hv, headInst_congr M .there choice a r hr hv]

/-- `core` is the conjunction of the `val` formulas of the head arguments (if any) and the body. -/
theorem headImp_sem (M : HTI) (w : World) (choice : Bool) (a : Asp.Atom) (r : Rule)
    (fvars : List String) (core : Formula)
    (hcore : ∀ w' τ, ht M core w' τ ↔
      valsList (σOf τ) a.args (fvars.map (σOf τ)) ∧ bodySat M w' (σOf τ) r.body) (τ : Asg) :
    ht M (.bin .imp
        (if choice then .bin .and core (.not (.not (.atomic (.atom ⟨a.pred, fvars.map GTerm.var⟩))))
          else core)
        (.atomic (.atom ⟨a.pred, fvars.map GTerm.var⟩))) w τ ↔
      headInsts M w choice a r fvars (σOf τ) := by
  have himp : ∀ (A B : Formula) w, ht M (.bin .imp A B) w τ ↔
      (ht M A w τ → ht M B w τ) ∧ (ht M A .there τ → ht M B .there τ) := fun _ _ _ => Iff.rfl
  have hand : ∀ (A B : Formula) w, ht M (.bin .and A B) w τ ↔ ht M A w τ ∧ ht M B w τ :=
    fun _ _ _ => Iff.rfl
  /- Both sides unfold to the same pair of implications, here and there. For a choice rule the conjunct
     `not not head` is, in either world, `M.t p ds` (`ht_notnot_atom_vars`): the third premise of `headInst`,
     which for a basic rule is `false = true → _` and disappears. -/
  cases choice <;>
    simp only [himp, hand, hcore, ht_atom_vars, ht_notnot_atom_vars, headInsts, headInst, and_imp,
      Bool.false_eq_true, false_imp_iff, true_imp_iff, if_true, if_false]

/-- the common arm of `tau_star_rule` for basic and choice heads, with the choice as a Boolean so
    that proofs need no `match r.head` (`tauStarRule_basic`, `tauStarRule_choice`) -/
def headRuleFormula (choice : Bool) (a : Asp.Atom) (r : Rule) (globals : List String) : Formula :=
  if a.args.length > 0 then
    let fvars := globals.take a.args.length
    let vals := (a.args.zip fvars).map fun (t, v) => val t ⟨v, .general⟩
    let newHead := Formula.atomic (.atom ⟨a.pred, fvars.map GTerm.var⟩)
    let core := Formula.bin .and (conjoin vals) (tauBody r.body)
    let body := if choice then .bin .and core (.not (.not newHead)) else core
    .quant .all (sortedGeneral (r.vars ++ fvars)) (.bin .imp body newHead)
  else
    let newHead := Formula.atomic (.atom ⟨a.pred, []⟩)
    let core := tauBody r.body
    let body := if choice then .bin .and core (.not (.not newHead)) else core
    let imp := Formula.bin .imp body newHead
    let gv := sortedGeneral r.vars
    if gv.isEmpty then imp else .quant .all gv imp

theorem tauStarRule_basic (r : Rule) (a : Asp.Atom) (globals : List String) (h : r.head = .basic a) :
    tauStarRule r globals = headRuleFormula false a r globals := by
  unfold tauStarRule headRuleFormula
  simp only [h, Bool.false_eq_true, if_false]

theorem tauStarRule_choice (r : Rule) (a : Asp.Atom) (globals : List String) (h : r.head = .choice a) :
    tauStarRule r globals = headRuleFormula true a r globals := by
  unfold tauStarRule headRuleFormula
  simp only [h, if_true]

theorem headRule_sem (M : HTI) (w : World) (choice : Bool) (a : Asp.Atom) (r : Rule)
    (hr : r.head = if choice then .choice a else .basic a) (globals : List String)
    (hn : globals.Nodup) (hfresh : ∀ g ∈ globals, g ∉ r.vars) (hlen : a.args.length ≤ globals.length)
    (ρ : Asg) : ht M (headRuleFormula choice a r globals) w ρ ↔ ruleSat M w r := by
  by_cases hpos : a.args.length > 0
  · simp only [headRuleFormula, if_pos hpos]
    have hfl : (globals.take a.args.length).length = a.args.length :=
      List.length_take_of_le hlen
    rw [← headInsts_iff M w choice a r hr _ (hn.sublist (List.take_sublist _ _))
      (fun g hg => hfresh g (List.mem_of_mem_take hg)) hfl]
    refine (bindAll_congr (fun τ => headImp_sem M w choice a r _ _ (fun w' τ => ?_) τ) ρ).trans
      (bindAll_sortedGeneral _ _ (headInsts_congr M w choice a r hr _) ρ)
    exact and_congr ((ht_conjoin ..).trans (valsZip M w' τ a.args _ hfl.symm)) (tauBody_sem ..)
  · simp only [headRuleFormula, if_neg hpos]
    have h0 : a.args = [] := List.eq_nil_of_length_eq_zero (Nat.eq_zero_of_not_pos hpos)
    rw [← headInsts_iff M w choice a r hr [] List.nodup_nil (fun _ h => nomatch h) (by rw [h0]; rfl)]
    refine close_sem M w r.vars _ _ (headImp_sem M w choice a r [] _ fun w' τ => ?_)
      (fun σ σ' h => headInsts_congr M w choice a r hr [] σ σ' fun x hx => h x (List.append_nil r.vars ▸ hx)) ρ
    rw [h0, tauBody_sem]
    exact ⟨fun h => ⟨trivial, h⟩, And.right⟩

theorem tauStarRule_sem (M : HTI) (w : World) (r : Rule) (globals : List String)
    (hn : globals.Nodup) (hfresh : ∀ g ∈ globals, g ∉ r.vars) (hlen : r.head.arity ≤ globals.length)
    (ρ : Asg) : ht M (tauStarRule r globals) w ρ ↔ ruleSat M w r := by
  cases hh : r.head with
  | falsity =>
    unfold tauStarRule ruleSat
    simp only [hh]
    refine close_sem M w r.vars _
      (fun σ => (bodySat M w σ r.body → False) ∧ (bodySat M .there σ r.body → False))
      (fun τ => by simp only [ht, tauBody_sem, Formula.fls, AtomicF.sat]) (fun σ σ' h => ?_) ρ
    have hb := fun w' => bodySat_congr M w' r.body fun x hx => h x (body_vars_subset r x hx)
    rw [hb, hb]
  | basic a =>
    rw [tauStarRule_basic r a globals hh]
    exact headRule_sem M w false a r hh globals hn hfresh (by rwa [hh] at hlen) ρ
  | choice a =>
    rw [tauStarRule_choice r a globals hh]
    exact headRule_sem M w true a r hh globals hn hfresh (by rwa [hh] at hlen) ρ

theorem foldl_digits (l : List Char) (init : Nat) :
    l.foldl (fun acc c => acc * 10 + (c.toNat - '0'.toNat)) init = Nat.ofDigitChars 10 l init := by
  unfold Nat.ofDigitChars
  congr 1
  funext acc c
  rw [Nat.mul_comm]

theorem globalIndex_V (k : Nat) :
    globalIndex ("V" ++ toString k) = some (if k ≤ usizeMax then k else 0) := by
  have hl : ("V" ++ toString k).toList = 'V' :: Nat.toDigits 10 k := by
    rw [String.toList_append, Nat.toString_eq_repr, Nat.toList_repr]; rfl
  have hall : (Nat.toDigits 10 k).all Char.isDigit = true :=
    List.all_eq_true.mpr fun c hc => Nat.isDigit_of_mem_toDigits (by decide) (by decide) hc
  have hne : (Nat.toDigits 10 k).isEmpty = false :=
    List.isEmpty_eq_false_iff.mpr Nat.toDigits_ne_nil
  unfold globalIndex
  rw [hl]
  simp only [hall, hne, if_true, Bool.false_eq_true, if_false, foldl_digits,
    Nat.ofDigitChars_ten_toDigits]

theorem le_foldl_of_mem {α} {g : Nat → α → Nat} (hg : ∀ m a, m ≤ g m a) {a : α} {k : Nat}
    (hk : ∀ m, k ≤ g m a) {l : List α} (init : Nat) (h : a ∈ l) : k ≤ l.foldl g init := by
  have mono : ∀ (l : List α) (m : Nat), m ≤ l.foldl g m := fun l => by
    induction l with
    | nil => exact fun m => Nat.le_refl m
    | cons c l ih => exact fun m => Nat.le_trans (hg m c) (ih _)
  induction l generalizing init with
  | nil => cases h
  | cons b l ih =>
    rcases List.mem_cons.mp h with rfl | h
    · exact Nat.le_trans (hk init) (mono l _)
    · exact ih _ h

theorem le_ite_gt (n m : Nat) : m ≤ (if n > m then n else m) ∧ n ≤ if n > m then n else m := by
  split
  · exact ⟨Nat.le_of_lt ‹_›, Nat.le_refl n⟩
  · exact ⟨Nat.le_refl m, Nat.le_of_not_gt ‹_›⟩

theorem le_maxTakenGlobal (p : Program) (v : String) (hv : v ∈ p.vars) (n : Nat)
    (hn : globalIndex v = some n) : n ≤ maxTakenGlobal p := by
  refine le_foldl_of_mem (fun m a => ?_) (fun m => ?_) 0 hv
  · cases globalIndex a with
    | none => exact Nat.le_refl m
    | some k => exact (le_ite_gt k m).1
  · rw [hn]; exact (le_ite_gt n m).2

theorem arity_le_maxHeadArity (p : Program) (r : Rule) (hr : r ∈ p) : r.head.arity ≤ maxHeadArity p := by
  refine le_foldl_of_mem (fun m a => ?_) (fun m => ?_) 0 hr
  · exact (le_ite_gt a.head.arity m).1
  · exact (le_ite_gt r.head.arity m).2

theorem rule_vars_subset (p : Program) (r : Rule) (hr : r ∈ p) : ∀ x ∈ r.vars, x ∈ p.vars :=
  fun _ hx => (mem_foldl_ext ..).mpr (Or.inr ⟨r, hr, hx⟩)

theorem findFreeGlobal_spec (occ : List String) :
    ∀ (fuel k : Nat), (∃ j, k ≤ j ∧ j < k + fuel ∧ ("V" ++ toString j) ∉ occ) →
      ("V" ++ toString (findFreeGlobal occ fuel k)) ∉ occ :=
  fun fuel k ⟨j, h1, h2, h3⟩ =>
    (fuel_search_spec id (fun j => "V" ++ toString j ∈ occ) (findFreeGlobal occ) (fun _ => rfl)
      (fun _ _ => rfl) fuel k ⟨j, h1, Nat.le_of_lt h2, h3⟩).1

theorem exists_free_global (occ : List String) (k : Nat) :
    ∃ j, k ≤ j ∧ j < k + (occ.length + 1) ∧ ("V" ++ toString j) ∉ occ := by
  obtain ⟨j, h1, h2, h3⟩ := exists_free_candidate "V" occ k
  exact ⟨j, h1, Nat.lt_succ_of_le h2, h3⟩

/-- last hypothesis: the names still to come from the first branch are not among those chosen -/
theorem freshGlobalsLoop_spec (p : Program) :
    ∀ (is : List Nat) (nf : Nat) (acc : List String), is.Pairwise (· < ·) → (∀ i ∈ is, 1 ≤ i) →
      acc.Nodup → (∀ g ∈ acc, g ∉ p.vars) →
      (∀ i ∈ is, maxTakenGlobal p + i ≤ usizeMax → ("V" ++ toString (maxTakenGlobal p + i)) ∉ acc) →
      (freshGlobalsLoop p.vars (maxTakenGlobal p) is nf acc).Nodup ∧
      (∀ g ∈ freshGlobalsLoop p.vars (maxTakenGlobal p) is nf acc, g ∉ p.vars) ∧
      (freshGlobalsLoop p.vars (maxTakenGlobal p) is nf acc).length = acc.length + is.length := by
  intro is
  induction is with
  | nil => intro nf acc _ _ hnd hfr _; exact ⟨hnd, hfr, rfl⟩
  | cons i is ih =>
    intro nf acc hsorted hpos hnd hfr hnext
    obtain ⟨hlt, hrest⟩ := List.pairwise_cons.mp hsorted
    -- both branches go on with `acc ++ [x]` for a name `x` that is new and none of the names to come
    have step : ∀ (x : String) (nf' : Nat), x ∉ p.vars → x ∉ acc →
        (∀ i' ∈ is, maxTakenGlobal p + i' ≤ usizeMax → "V" ++ toString (maxTakenGlobal p + i') ≠ x) →
        (freshGlobalsLoop p.vars (maxTakenGlobal p) is nf' (acc ++ [x])).Nodup ∧
        (∀ g ∈ freshGlobalsLoop p.vars (maxTakenGlobal p) is nf' (acc ++ [x]), g ∉ p.vars) ∧
        (freshGlobalsLoop p.vars (maxTakenGlobal p) is nf' (acc ++ [x])).length =
          acc.length + (is.length + 1) := by
      intro x nf' hx hxa hne
      obtain ⟨h1, h2, h3⟩ := ih nf' (acc ++ [x]) hrest
        (fun i' hi' => hpos i' (List.mem_cons_of_mem _ hi'))
        (List.nodup_append.mpr ⟨hnd, (by simp), fun a ha b hb e =>
          hxa (by rw [← List.mem_singleton.mp hb, ← e]; exact ha)⟩)
        (fun g hg => (List.mem_append.mp hg).elim (hfr g) fun hg => List.mem_singleton.mp hg ▸ hx)
        (fun i' hi' hfit hm => (List.mem_append.mp hm).elim
          (hnext i' (List.mem_cons_of_mem _ hi') hfit)
          fun hm => hne i' hi' hfit (List.mem_singleton.mp hm))
      exact ⟨h1, h2, by rw [h3, List.length_append, List.length_singleton, Nat.add_assoc,
        Nat.add_comm 1]⟩
    simp only [freshGlobalsLoop]
    split
    · rename_i hfit
      refine step _ nf (fun hmem => ?_) (hnext i List.mem_cons_self hfit) fun i' hi' _ e => ?_
      · have := le_maxTakenGlobal p _ hmem _ (globalIndex_V (maxTakenGlobal p + i))
        rw [if_pos hfit] at this
        exact Nat.not_succ_le_self _
          (Nat.le_trans (Nat.add_le_add_left (hpos i List.mem_cons_self) _) this)
      · exact Nat.lt_irrefl i (Nat.add_left_cancel (cand_inj "V" e) ▸ hlt i' hi')
    · have hfree := findFreeGlobal_spec (p.vars ++ acc) _ (nf + 1) (exists_free_global _ _)
      rw [List.mem_append, not_or] at hfree
      rename_i hfit
      exact step _ _ hfree.1 hfree.2 fun i' hi' hfit' =>
        absurd (Nat.le_trans (Nat.add_le_add_left (Nat.le_of_lt (hlt i' hi')) _) hfit') hfit

theorem chooseFreshGlobals_spec (p : Program) (_hp : globalsPanic p = false) :
    (chooseFreshGlobals p).Nodup ∧ (∀ g ∈ chooseFreshGlobals p, g ∉ p.vars) ∧
      (chooseFreshGlobals p).length = maxHeadArity p := by
  obtain ⟨h1, h2, h3⟩ := freshGlobalsLoop_spec p (List.range' 1 (maxHeadArity p)) 0 []
    List.pairwise_lt_range' (fun i hi => (List.mem_range'_1.mp hi).1)
    List.nodup_nil (fun _ h => nomatch h) (fun _ _ _ h => nomatch h)
  exact ⟨h1, h2, h3.trans (by rw [List.length_range']; exact Nat.zero_add _)⟩

theorem tauStarRule_sem_of_mem (P : Program) (M : HTI) (w : World)
    (ρ : Asg) {r : Rule} (hr : r ∈ P) :
    ht M (tauStarRule r (chooseFreshGlobals P)) w ρ ↔ ruleSat M w r := by
  obtain ⟨hn, hfresh, hlen⟩ := chooseFreshGlobals_spec P rfl
  exact tauStarRule_sem M w r _ hn (fun g hg hx => hfresh g hg (rule_vars_subset P r hr g hx))
    (hlen ▸ arity_le_maxHeadArity P r hr) ρ

theorem tauStar_correct (P : Program) (hp : globalsPanic P = false) (M : HTI) (w : World) (ρ : Asg) :
    (∀ F ∈ tauStar P, ht M F w ρ) ↔ progSat M w P :=
  List.forall_mem_map.trans
    (forall_congr' fun _ => imp_congr_right fun hr => tauStarRule_sem_of_mem P M w ρ hr)

theorem bindAll_fresh_general (zs : List String) (hn : zs.Nodup) (P : Asg → Prop) (ρ : Asg) :
    bindAll (zs.map fun z => (⟨z, .general⟩ : Var)) P ρ ↔
      ∀ ds : List Dom, ds.length = zs.length → P (assignGen ρ zs ds) := by
  rw [bindAll_iff]
  constructor
  · intro h ds _
    exact h _ ((allUpd_general zs ρ _).mpr fun v hv => assignGen_other ρ zs ds v hv)
  · intro h τ hτ
    rw [allUpd_general] at hτ
    have : assignGen ρ zs (zs.map fun z => τ ⟨z, .general⟩) = τ := by
      funext v
      by_cases hv : ∀ z ∈ zs, v ≠ ⟨z, .general⟩
      · rw [assignGen_other ρ zs _ v hv, hτ v hv]
      · have hv' : ∃ z, z ∈ zs ∧ v = ⟨z, .general⟩ := by
          refine Classical.byContradiction fun hne => hv fun z hz e => hne ⟨z, hz, e⟩
        obtain ⟨z, hz, rfl⟩ := hv'
        have hm := assignGen_map ρ zs (zs.map fun z => τ ⟨z, .general⟩) hn (by simp)
        exact List.map_inj_left.mp hm z hz
    rw [← this]; exact h _ (by simp)

theorem mem_varAtom_vars (q : String) (zs : List String) (v : Var) :
    v ∈ (AtomicF.atom ⟨q, zs.map GTerm.var⟩).vars ↔ v ∈ zs.map fun z => (⟨z, .general⟩ : Var) := by
  simp only [AtomicF.vars, mem_foldl_ext, List.not_mem_nil, false_or, List.mem_map]
  constructor
  · rintro ⟨t, ⟨z, hz, rfl⟩, hv⟩
    exact ⟨z, hz, (List.mem_singleton.mp hv).symm⟩
  · rintro ⟨z, hz, rfl⟩
    exact ⟨.var z, ⟨z, hz, rfl⟩, List.mem_singleton.mpr rfl⟩

end Anthem
