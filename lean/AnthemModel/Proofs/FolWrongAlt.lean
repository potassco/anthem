/-
  Well-formedness of formulas, and the alternatives the PEG tries *first* fail on printed text:
  an integer term is never read out of the text of a formula in a way that ends before `)`
  (so `p <- q` is not read as the comparison `p < -q`, and `p <- (F)` neither).
-/
import AnthemModel.Proofs.FolPrefixRT
namespace Anthem.Fol
open Anthem.Asp (isWs skip stripPrefix isIdChar isNonzeroDigit SymName NoId StopsAt Solid StartsSolid
  takeWhile_append_stop noId_cons skip_cons_solid skip_of_startsSolid skip_space stripPrefix_head_ne parenLL
  parenLL_startsSolid)

abbrev ITerm.Safe (t : ITerm) : Prop := ITerm.WF t
abbrev GTerm.Safe (t : GTerm) : Prop := GTerm.WF t

/-- the name at the very start of an atomic formula is not `not` (the parser would have read a
    negation there); `not$i`, `not$g`, `not$s` may stand there (anthem's fix 2ca6488) -/
def AtomicF.NotFirst : AtomicF → Prop
  | .atom a => a.pred.toList ≠ ['n', 'o', 't']
  | .cmp (.symb (.sym s)) _ => s.toList ≠ ['n', 'o', 't']
  | _ => True

def AtomicF.Safe (a : AtomicF) : Prop := AtomicF.WF a ∧ AtomicF.NotFirst a

/-- names of the grammar's lexical shape, no atomic formula starts with the name `not`, every
    comparison has a guard and every quantifier a variable -/
def Formula.Safe : Formula → Prop
  | .atomic a => AtomicF.Safe a
  | .not f => Formula.Safe f
  | .quant _ vs f => vs ≠ [] ∧ (∀ v ∈ vs, Var.WF v) ∧ Formula.Safe f
  | .bin _ l r => Formula.Safe l ∧ Formula.Safe r

theorem ITerm.Safe.wf {t : ITerm} (h : ITerm.Safe t) : ITerm.WF t := h
theorem GTerm.Safe.wf {t : GTerm} (h : GTerm.Safe t) : GTerm.WF t := h
theorem AtomicF.Safe.wf {a : AtomicF} (h : AtomicF.Safe a) : AtomicF.WF a := h.1

theorem lexVariable_none_of_head (c : Char) (r : List Char) (h1 : c.isUpper = false) (h2 : c ≠ '_') :
    lexVariable (c :: r) = none := by
  simp [lexVariable, lexIntVar, lexSymVar, lexGenVar, lexUVar_none_of_head c r h1 h2]

theorem lexVariable_nonId (c : Char) (r : List Char) (h : isIdChar c = false) : lexVariable (c :: r) = none :=
  lexVariable_none_of_head c r (not_idChar h).2.1 (not_idChar h).2.2.2

theorem lexVariable_skip_nonId (c : Char) (r : List Char) (h : isIdChar c = false) (hs : Solid c) :
    lexVariable (skip (c :: r)) = none := by
  rw [skip_cons_solid r hs]; exact lexVariable_nonId c r h

theorem prefixL_uvName (l X : List Char) (h : UVName l) : prefixL (l ++ X) = none := by
  rcases h with ⟨c, w, rfl, hc, _⟩ | ⟨c, w, rfl, _, _⟩
  · exact prefixL_head c _ (by intro e; subst e; revert hc; decide) (by intro e; subst e; revert hc; decide)
      (by intro e; subst e; revert hc; decide)
  · exact prefixL_head '_' _ (by decide) (by decide) (by decide)

theorem prefixL_hash (r : List Char) : prefixL ('#' :: r) = none :=
  prefixL_head '#' r (by decide) (by decide) (by decide)

theorem prefixL_name_dollar (l r : List Char) (hl : SymName l) : prefixL (l ++ '$' :: r) = none :=
  prefixL_name l _ hl (Or.inr ⟨r, rfl⟩) (noId_cons _ (by decide))
    (lexVariable_skip_nonId '$' _ (by decide) ⟨by decide, by decide⟩)

theorem prefixL_iterm (t : ITerm) (ht : ITerm.Safe t) (X : List Char) : prefixL (ITerm.printL t ++ X) = none := by
  rcases ITerm.printL_head t ht X with ⟨c, r, e, hc, _⟩ | ⟨l, Y, hl | hl, e⟩ <;> rw [e]
  · exact prefixL_head c r (opener_ne hc (by decide)) (opener_ne hc (by decide)) (opener_ne hc (by decide))
  · exact prefixL_name_dollar _ _ hl
  · exact prefixL_uvName _ _ hl

theorem prefixL_gterm (t : GTerm) (ht : GTerm.Safe t) (Y : List Char) (hY : NoId Y) (hv : lexVariable (skip Y) = none)
    (hfirst : ∀ s, t = .symb (.sym s) → s.toList ≠ ['n', 'o', 't']) :
    prefixL (GTerm.printL t ++ Y) = none := by
  cases t with
  | inf => exact prefixL_hash _
  | sup => exact prefixL_hash _
  | fc c =>
    simp only [GTerm.printL, List.append_assoc]
    exact prefixL_name_dollar _ _ ht
  | var v => exact prefixL_uvName _ _ ht
  | int it => exact prefixL_iterm it ht Y
  | symb st =>
    cases st with
    | sym s => exact prefixL_name _ _ ht (Or.inl (hfirst s rfl)) hY hv
    | fc c =>
      simp only [GTerm.printL, STerm.printL, List.append_assoc]
      exact prefixL_name_dollar _ _ ht
    | var v => simp only [GTerm.printL, STerm.printL, List.append_assoc]; exact prefixL_uvName _ _ ht

theorem guardsPrintL_noId (gs : List Guard) (hne : gs ≠ []) (rest : List Char) : NoId (guardsPrintL gs ++ rest) := by
  cases gs with
  | nil => exact absurd rfl hne
  | cons g gs => exact noId_cons _ (by decide)

theorem guardsPrintL_noVar (gs : List Guard) (hne : gs ≠ []) (rest : List Char) :
    lexVariable (skip (guardsPrintL gs ++ rest)) = none := by
  cases gs with
  | nil => exact absurd rfl hne
  | cons g gs =>
    simp only [guardsPrintL, List.cons_append, List.append_assoc, skip_space]
    rw [skip_relation]
    cases g.rel <;> exact lexVariable_none_of_head _ _ (by decide) (by decide)

theorem prefixL_atomic (a : AtomicF) (ha : AtomicF.Safe a) (rest : List Char) (hr : NoId rest)
    (hv : lexVariable (skip rest) = none) : prefixL (AtomicF.printL a ++ rest) = none := by
  cases a with
  | tru => exact prefixL_hash _
  | fls => exact prefixL_hash _
  | atom at' =>
    obtain ⟨pred, args⟩ := at'
    cases args with
    | nil =>
      simp only [AtomicF.printL, Atom.printL, List.isEmpty_nil, if_true]
      exact prefixL_name _ _ ha.1.1 (Or.inl ha.2) hr hv
    | cons t ts =>
      simp only [AtomicF.printL, Atom.printL, List.isEmpty_cons, Bool.false_eq_true, if_false, List.append_assoc]
      exact prefixL_name _ _ ha.1.1 (Or.inl ha.2) (noId_cons _ (by decide)) (lexVariable_skip_nonId '(' _ (by decide) ⟨by decide, by decide⟩)
  | cmp t gs =>
    simp only [AtomicF.printL, List.append_assoc]
    refine prefixL_gterm t ha.1.1 _ (guardsPrintL_noId gs ha.1.2.1 rest) (guardsPrintL_noVar gs ha.1.2.1 rest) ?_
    intro s e; subst e; exact ha.2

theorem AtomicF.printL_startsSolid (a : AtomicF) (ha : AtomicF.Safe a) : StartsSolid (AtomicF.printL a) := by
  cases a with
  | tru => exact ⟨'#', _, rfl, by decide, by decide⟩
  | fls => exact ⟨'#', _, rfl, by decide, by decide⟩
  | atom at' =>
    simp only [AtomicF.printL, Atom.printL]
    split
    · exact SymName.startsSolid ha.1.1
    · exact (SymName.startsSolid ha.1.1).append _
  | cmp t gs => exact (GTerm.printL_startsSolid t ha.1.1).append _

theorem Formula.printL_startsSolid : ∀ (F : Formula), Formula.Safe F → StartsSolid (Formula.printL F)
  | .atomic a, h => AtomicF.printL_startsSolid a h
  | .not _, _ => ⟨'n', _, rfl, by decide, by decide⟩
  | .quant q _ _, _ => by cases q <;> exact ⟨_, _, rfl, by decide, by decide⟩
  | .bin c l r, h => by
    simp only [Formula.printL]
    exact (parenLL_startsSolid _ (Formula.printL_startsSolid l h.1)).append _

def NotBeforeParen (o : Option (ITerm × List Char)) : Prop :=
  o = none ∨ ∃ t r2, o = some (t, r2) ∧ ∀ r3, skip r2 ≠ ')' :: r3

theorem ioperand_paren_fail (f : Nat) (r1 : List Char) (h : NotBeforeParen (itermL f (skip r1))) :
    ioperand (f + 1) ('(' :: r1) = none := by
  obtain ⟨hs, hn, h0, hc, hv⟩ := operand_lexers_nonId r1 (c := '(') (by decide) ⟨by decide, by decide⟩ (by decide)
  rcases h with h | ⟨t, r2, h, h2⟩ <;>
    simp only [ioperand, lexNegs_none (('(' :: r1).length + 1) true ('(' :: r1) (by simpa using hn), hs, h0, hc, hv, h]

theorem symName_not : SymName ['n', 'o', 't'] := Or.inl ⟨'n', ['o', 't'], rfl, by decide, by decide⟩
theorem symName_qword (q : Quant) : SymName (qwordL q) := by
  cases q
  · exact Or.inl ⟨'f', ['o', 'r', 'a', 'l', 'l'], rfl, by decide, by decide⟩
  · exact Or.inl ⟨'e', ['x', 'i', 's', 't', 's'], rfl, by decide, by decide⟩

theorem rel_not_paren (rel : Rel) (Z r3 : List Char) : Rel.printL rel ++ Z ≠ ')' :: r3 := by
  cases rel <;> (intro e; simp [Rel.printL] at e)

/-- `itermL` reads no term that ends in front of `)`; and unless the text begins with a comparison
    (`cmp`), no operand starts at it at all, nor a `-` -/
def OperandOK (cmp : Bool) (T : List Char) : Prop :=
  (∀ f, 2 * T.length + 1 < f → NotBeforeParen (itermL f T)) ∧
  (cmp = false → (∀ g, 2 * T.length < g → ioperand g T = none) ∧ lexNegative T = none)

theorem notBeforeParen_of_ioperand_none {T : List Char} (h : ∀ g, 2 * T.length < g → ioperand g T = none)
    (f : Nat) (hf : 2 * T.length + 1 < f) : NotBeforeParen (itermL f T) := by
  obtain ⟨g, rfl⟩ := Nat.exists_eq_add_one.mpr (Nat.zero_lt_of_lt hf)
  left
  rw [itermL_succ]
  simp only [iseqT, h g (Nat.lt_of_succ_lt_succ hf)]

theorem operandOK_of_none {T : List Char} (cmp : Bool) (h : ∀ g, ioperand g T = none) (hn : lexNegative T = none) :
    OperandOK cmp T :=
  ⟨notBeforeParen_of_ioperand_none fun g _ => h g, fun _ => ⟨fun g _ => h g, hn⟩⟩

theorem operandOK_name {l : List Char} (hl : SymName l) {X : List Char} (hX : NameFollow X) (cmp : Bool) :
    OperandOK cmp (l ++ X) :=
  operandOK_of_none cmp
    (ioperand_name (Or.inl hl) X (lexFnConst_plain _ _ _ hl hX.1 hX.2) (lexIntVar_none_of_uvar _ (lexUVar_symName _ _ hl)))
    (lexNegative_name (Or.inl hl) X)

/-- one induction along the leftmost leaf -/
theorem formula_operandOK : ∀ (F : Formula), Formula.Safe F → ∀ (rest : List Char), NameFollow rest →
    OperandOK F.beginsWithComparison (Formula.printL F ++ rest) := by
  intro F
  have blank : ∀ Y : List Char, NameFollow (' ' :: Y) := fun Y => nameFollow_cons Y (by decide) (by decide)
  induction F with
  | atomic a =>
    intro ha rest hr
    have hash : ∀ r : List Char, OperandOK false ('#' :: r) := fun r => operandOK_of_none _
      (ioperand_nonId '#' r (by decide) ⟨by decide, by decide⟩ (by decide) (by decide))
      (lexNegative_of_head r ⟨by decide, by decide⟩ (by decide))
    cases a with
    | tru => exact hash _
    | fls => exact hash _
    | atom at' =>
      obtain ⟨X, eX, hX⟩ := Atom.printL_text at' rest
      refine (show Formula.printL (.atomic (.atom at')) ++ rest = _ from eX) ▸ operandOK_name ha.1.1 ?_ _
      rcases hX with rfl | ⟨Y, rfl⟩
      · exact hr
      · exact nameFollow_cons Y (by decide) (by decide)
    | cmp t gs =>
      obtain ⟨ht, hne, _⟩ := ha.1
      refine ⟨?_, fun h => nomatch h⟩
      cases gs with
      | nil => exact absurd rfl hne
      | cons g gs =>
        simp only [Formula.printL, AtomicF.printL, guardsPrintL, List.append_assoc, List.cons_append]
        by_cases hint : ∃ it, t = .int it
        · -- the term is read, and a relation follows
          obtain ⟨it, rfl⟩ := hint
          intro f hf
          obtain ⟨f0, rfl⟩ := Nat.exists_eq_add_one.mpr (Nat.zero_lt_of_lt hf)
          obtain ⟨hg1, _, hg3⟩ := gfollow_guard g (GTerm.printL g.term ++ (guardsPrintL gs ++ rest))
          refine Or.inr ⟨it, _, itermL_printL it ht _ hg1.noId hg3 f0 (Nat.lt_of_succ_lt_succ hf), fun r3 => ?_⟩
          rw [skip_space, skip_relation]
          exact rel_not_paren _ _ _
        · exact notBeforeParen_of_ioperand_none fun g' _ =>
            ioperand_gterm_nonint t ht (fun it e => hint ⟨it, e⟩) _ (blank _) g'
  | not g _ =>
    intro _ rest _
    exact operandOK_name symName_not (blank _) _
  | quant q vs g _ =>
    intro h rest _
    cases vs with
    | nil => exact absurd rfl h.1
    | cons v vs =>
      simp only [Formula.printL, varsL, List.append_assoc, List.cons_append]
      exact operandOK_name (symName_qword q) (blank _) _
  | bin c l r ihl _ =>
    intro h rest hr
    by_cases hb : parenLeft c l r = true
    · -- `(l) c r`: the operand parser tries `l` as a term, which does not end in front of the `)`
      simp only [Formula.printL, hb, parenLL_true, List.cons_append, List.append_assoc]
      generalize Conn.printL c ++ (parenLL (parenRight c l r) (Formula.printL r) ++ rest) = Z
      have hnone : ∀ g, 2 * ('(' :: (Formula.printL l ++ ')' :: Z)).length < g →
          ioperand g ('(' :: (Formula.printL l ++ ')' :: Z)) = none := by
        intro g hg
        obtain ⟨g0, rfl, hg0⟩ := Asp.fuel_cons hg
        refine ioperand_paren_fail g0 _ ?_
        rw [skip_of_startsSolid ((Formula.printL_startsSolid l h.1).append _)]
        exact (ihl h.1 (')' :: Z) (nameFollow_cons Z (by decide) (by decide))).1 g0 hg0
      exact ⟨notBeforeParen_of_ioperand_none hnone,
        fun _ => ⟨hnone, lexNegative_of_head _ ⟨by decide, by decide⟩ (by decide)⟩⟩
    · simp only [Formula.printL, Bool.eq_false_iff.mpr hb, List.append_assoc, parenLL_false]
      refine ihl h.1 _ ?_
      cases c <;> exact blank _

theorem itermL_formula : ∀ (F : Formula), Formula.Safe F → ∀ (rest : List Char), NameFollow rest →
    ∀ f, 2 * (Formula.printL F ++ rest).length + 1 < f → NotBeforeParen (itermL f (Formula.printL F ++ rest)) :=
  fun F hF rest hr => (formula_operandOK F hF rest hr).1

theorem ioperand_minus_space (f : Nat) (Y : List Char) (hs : skip Y = Y) (hn : lexNegative Y = none)
    (h : ioperand (f + 1) Y = none) : ioperand (f + 1) ('-' :: ' ' :: Y) = none := by
  have hneg : lexNegative ('-' :: ' ' :: Y) = some (' ' :: Y) :=
    lexNegative_minus _ (by simp [lexNumeral, Asp.lexInteger, isNonzeroDigit])
  have h1 : lexNegs (('-' :: ' ' :: Y).length + 1) true ('-' :: ' ' :: Y) = ([ITok.neg], ' ' :: Y) := by
    have a := lexNegs_succ_some (('-' :: ' ' :: Y).length) true ('-' :: ' ' :: Y) (' ' :: Y) (by simpa using hneg)
    have b := lexNegs_none (('-' :: ' ' :: Y).length) false (' ' :: Y) (by simpa [skip_space, hs] using hn)
    rw [a, b]
  have h0 := lexNegs_none (Y.length + 1) true Y (by simpa using hn)
  rw [ioperand_neg f _ Y (by rw [h1, h0]) (by rw [h1, h0, skip_space]), h]
  rfl

theorem fuel_rimp {n f : Nat} (h : 2 * (n + 1) + 3 < f) : 2 * n + 1 < f := by omega

/-- the text after `<- ` is not read as a term after `< -`. The bound `+ 3` is the largest that the
    one use meets: `gtermL` on `- Y` runs `ioperand` with fuel `2 * (Y.length + 2) + 1`
    (`atomicFollow_conn`), i.e. `f = 2 * Y.length + 4`; `fuel_rimp` is that bound behind one `(`. -/
def RimpSafe (Y : List Char) : Prop := ∀ f, 2 * Y.length + 3 < f → ioperand (f + 1) ('-' :: ' ' :: Y) = none

theorem rimpSafe_arg (l r : Formula) (hr : Formula.Safe r) (rest : List Char) (hrest : NameFollow rest) :
    RimpSafe (parenLL (parenRight .rimp l r) (Formula.printL r) ++ rest) := by
  intro f hf
  by_cases hp : parenRight .rimp l r = true
  · have e : parenLL (parenRight .rimp l r) (Formula.printL r) ++ rest = '(' :: (Formula.printL r ++ ')' :: rest) := by
      rw [hp, parenLL_true]
    rw [e] at hf ⊢
    have hs : skip (Formula.printL r ++ ')' :: rest) = Formula.printL r ++ ')' :: rest :=
      skip_of_startsSolid ((Formula.printL_startsSolid r hr).append _)
    have hin := itermL_formula r hr (')' :: rest) (nameFollow_cons (c := ')') _ (by decide) (by decide)) f
      (fuel_rimp hf)
    rw [← hs] at hin
    exact ioperand_minus_space f _ (skip_cons_solid _ ⟨by decide, by decide⟩)
      (lexNegative_of_head _ ⟨by decide, by decide⟩ (by decide)) (ioperand_paren_fail f _ hin)
  · have hp' : parenRight .rimp l r = false := by simpa using hp
    have hb : r.beginsWithComparison = false := by
      simp only [parenRight, decide_true, Bool.true_and, Bool.or_eq_false_iff] at hp'
      exact hp'.1.1.1
    have e : parenLL (parenRight .rimp l r) (Formula.printL r) ++ rest = Formula.printL r ++ rest := by
      rw [hp', parenLL_false]
    rw [e] at hf ⊢
    obtain ⟨h1, h2⟩ := (formula_operandOK r hr rest hrest).2 hb
    exact ioperand_minus_space f _ (skip_of_startsSolid ((Formula.printL_startsSolid r hr).append _)) h2
      (h1 (f + 1) (Nat.lt_succ_of_lt (Nat.lt_of_le_of_lt (Nat.le_add_right _ 3) hf)))

theorem gtermL_minus_none (Z : List Char) (h : ioperand (2 * ('-' :: Z).length + 1) ('-' :: Z) = none) :
    gtermL ('-' :: Z) = none := by
  have a1 : lexFnConst lexSortG ('-' :: Z) = none :=
    lexFnConst_none_of_symConst _ _ (lexSymConst_none_of_head '-' Z (by decide) (by decide))
  have a2 : itermL (2 * ('-' :: Z).length + 2) ('-' :: Z) = none := by
    rw [itermL_succ]; simp only [iseqT, h]
  have a3 : lexSymConst ('-' :: Z) = none := lexSymConst_none_of_head '-' Z (by decide) (by decide)
  have a4 : lexUVar ('-' :: Z) = none := lexUVar_none_of_head '-' Z (by decide) (by decide)
  simp only [gtermL, a1, a2, stermL, lexFnConst_none_of_symConst _ _ a3, a3, lexSymVar, lexGenVar, a4]
  simp [stripPrefix]

theorem gtermL_arrow (Z : List Char) : gtermL ('-' :: '>' :: Z) = none := by
  refine gtermL_minus_none _ ?_
  have : 2 * ('-' :: '>' :: Z).length + 1 = (2 * ('-' :: '>' :: Z).length) + 1 := rfl
  rw [this, ioperand_minus _ ('>' :: Z) (skip_cons_solid Z ⟨by decide, by decide⟩)
    (by simp [lexNumeral, Asp.lexInteger, isNonzeroDigit]), ioperand_gt]
  rfl

theorem guardsL_of_rel_none (f : Nat) (rest : List Char) (h : lexRelation (skip rest) = none) : guardsL f rest = ([], rest) := by
  cases f with
  | zero => rfl
  | succ f => simp [guardsL, h]

theorem guardsL_of_gterm_none (f : Nat) (rest : List Char) (rel : Rel) (r : List Char)
    (h1 : lexRelation (skip rest) = some (rel, r)) (h2 : gtermL (skip r) = none) : guardsL f rest = ([], rest) := by
  cases f with
  | zero => rfl
  | succ f => simp [guardsL, h1, h2]

/-- `AtomicFollow` only looks at the first character of the text and at what stands behind the
    white space -/
theorem atomicFollow_of_skip {rest : List Char} {c : Char} {W : List Char} (hne : NoIdNE rest)
    (hd : ∀ r, rest ≠ '$' :: r) (hs : skip rest = c :: W)
    (hop : lexIOp (c :: W) = none ∨ ∃ r, c :: W = '-' :: '>' :: r) (hp : c ≠ '(')
    (hrel : lexRelation (c :: W) = none ∨
      ∃ rel r, lexRelation (c :: W) = some (rel, r) ∧ gtermL (skip r) = none)
    (hv : lexVariable (c :: W) = none) : AtomicFollow rest := by
  have hstop : ITailStop rest := by
    unfold ITailStop
    rw [hs]
    exact hop
  refine ⟨⟨hne, hd, hstop⟩, ⟨hne, fun r e => hp (List.cons.inj (hs.symm.trans e)).1⟩, fun f => ?_, hs ▸ hv⟩
  rcases hrel with h | ⟨rel, r, h1, h2⟩
  · exact guardsL_of_rel_none f _ (hs ▸ h)
  · exact guardsL_of_gterm_none f _ rel r (hs ▸ h1) h2

theorem atomicFollow_punct (c : Char) (Y : List Char) (h : c = ')' ∨ c = '.') : AtomicFollow (c :: Y) := by
  rcases h with rfl | rfl <;>
    exact atomicFollow_of_skip ⟨_, Y, rfl, by decide⟩ (fun r e => absurd (List.cons.inj e).1 (by decide))
      (skip_cons_solid Y ⟨by decide, by decide⟩) (Or.inl rfl) (by decide) (Or.inl rfl)
      (lexVariable_none_of_head _ _ (by decide) (by decide))

theorem atomicFollow_close (Y : List Char) : AtomicFollow (')' :: Y) := atomicFollow_punct _ Y (Or.inl rfl)

theorem atomicFollow_dot (Y : List Char) : AtomicFollow ('.' :: Y) := atomicFollow_punct _ Y (Or.inr rfl)

theorem conn_keywords : "<->".toList = ['<', '-', '>'] ∧ "->".toList = ['-', '>'] ∧ "<-".toList = ['<', '-'] ∧
    "and".toList = ['a', 'n', 'd'] ∧ "or".toList = ['o', 'r'] := by decide +kernel

theorem lexConn_none_of_head (c : Char) (r : List Char) (h1 : c ≠ '<') (h2 : c ≠ '-') (h3 : c ≠ 'a')
    (h4 : c ≠ 'o') : lexConn (c :: r) = none := by
  unfold lexConn
  simp only [conn_keywords, stripPrefix_head_ne _ r (Ne.symm h1), stripPrefix_head_ne _ r (Ne.symm h2),
    stripPrefix_head_ne _ r (Ne.symm h3), stripPrefix_head_ne _ r (Ne.symm h4)]

theorem skip_conn (c : Conn) (Y : List Char) : skip (Conn.printL c ++ Y) = (Conn.printL c).tail ++ Y := by
  cases c <;> exact (skip_space _).trans (skip_cons_solid _ ⟨by decide, by decide⟩)

theorem atomicFollow_conn (c : Conn) (Y : List Char) (hsafe : c = .rimp → RimpSafe Y) :
    AtomicFollow (Conn.printL c ++ Y) := by
  have hne : NoIdNE (Conn.printL c ++ Y) := by cases c <;> exact ⟨' ', _, rfl, by decide⟩
  have hnd : ∀ r, Conn.printL c ++ Y ≠ '$' :: r := by
    cases c <;> exact fun r e => absurd (List.cons.inj e).1 (by decide)
  have hword : ∀ (a : Char) (r : List Char), a.isUpper = false → a ≠ '_' → lexVariable (a :: r) = none :=
    fun a r h1 h2 => lexVariable_none_of_head a r h1 h2
  cases c with
  | and | or =>
    exact atomicFollow_of_skip hne hnd (skip_conn _ Y) (Or.inl rfl) (by decide) (Or.inl rfl)
      (hword _ _ (by decide) (by decide))
  | imp =>
    exact atomicFollow_of_skip hne hnd (skip_conn .imp Y) (Or.inr ⟨_, rfl⟩) (by decide) (Or.inl rfl)
      (hword _ _ (by decide) (by decide))
  | iff =>
    -- `<` is read as a relation, but no general term starts with `->`
    refine atomicFollow_of_skip hne hnd (skip_conn .iff Y) (Or.inl rfl) (by decide)
      (Or.inr ⟨.lt, _, rfl, ?_⟩) (hword _ _ (by decide) (by decide))
    rw [skip_cons_solid _ ⟨by decide, by decide⟩]
    exact gtermL_arrow _
  | rimp =>
    -- `<` is read as a relation, and `- Y` is no general term: that is `RimpSafe`
    refine atomicFollow_of_skip hne hnd (skip_conn .rimp Y) (Or.inl rfl) (by decide)
      (Or.inr ⟨.lt, _, rfl, ?_⟩) (hword _ _ (by decide) (by decide))
    rw [skip_cons_solid _ ⟨by decide, by decide⟩]
    exact gtermL_minus_none _ (hsafe rfl (2 * ('-' :: ' ' :: Y).length) (Nat.lt_succ_self _))

end Anthem.Fol
