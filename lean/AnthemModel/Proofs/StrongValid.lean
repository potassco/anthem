/-
  C03, soundness with no side condition: if no emitted problem of a universal strong-equivalence task has
  a countermodel, the two programs are strongly equivalent. `rename_conflicting_symbols` needs no hypothesis:
  every interpretation is, on the names of a problem, the reading of one through the problem's renaming.
-/
import AnthemModel.Proofs.RenameValid
namespace Anthem
open Asp

theorem direction0_formula_mem (name : String) (tr ax cj : Theory) (axPre cjPre : String) (F : Formula)
    (hF : F ∈ tr ∨ F ∈ ax ∨ F ∈ cj) :
    ∃ a ∈ (directionProblem0 name tr ax cj axPre cjPre).formulas, a.formula = F := by
  refine Classical.byContradiction fun hne => ?_
  have hall : ∀ role, ∀ a ∈ (directionProblem0 name tr ax cj axPre cjPre).formulas, a.role = role → a.formula ≠ F :=
    fun _ a ha _ he => hne ⟨a, ha, he⟩
  obtain ⟨h1, h2⟩ := direction0_role_forall name tr ax cj axPre cjPre (fun G => G ≠ F)
  rcases hF with hF | hF | hF
  · exact (h1.mp (hall .axiom)).1 F hF rfl
  · exact (h1.mp (hall .axiom)).2 F hF rfl
  · exact h2.mp (hall .conjecture) F hF rfl

theorem direction_countermodel (J0 : Interp) (ρ : Asg) (name : String) (tr ax cj : Theory) (axPre cjPre : String)
    (d : Decomposition) (htr : ∀ F ∈ tr, sat J0 F ρ) (hax : ∀ F ∈ ax, sat J0 F ρ) (hcj : ¬ ∀ G ∈ cj, sat J0 G ρ) :
    ∃ J1 : Interp, ∃ P ∈ (directionProblem name tr ax cj axPre cjPre).decompose d, Refutes J1 ρ P := by
  obtain ⟨J1, hfc, hread⟩ := reading_surjective (directionProblem0 name tr ax cj axPre cjPre) J0
  have hsat : ∀ F, (F ∈ tr ∨ F ∈ ax ∨ F ∈ cj) →
      (sat ⟨propReading (directionProblem0 name tr ax cj axPre cjPre).propRenaming J1.pred, J1.fc⟩ F ρ ↔ sat J0 F ρ) := by
    intro F hF
    obtain ⟨a, ha, rfl⟩ := direction0_formula_mem name tr ax cj axPre cjPre F hF
    rw [hfc]
    refine sat_congr_preds J0.fc _ J0.pred a.formula ρ ?_
    intro q hq ds _
    exact hread q.symbol ds (pred_symbol_occupied _ a ha q hq)
  refine ⟨J1, (direction_refutes_renamed J1 ρ name tr ax cj axPre cjPre d).mpr ⟨?_, ?_, ?_⟩⟩
  · exact fun F hF => (hsat F (Or.inl hF)).mpr (htr F hF)
  · exact fun F hF => (hsat F (Or.inr (Or.inl hF))).mpr (hax F hF)
  · exact fun hall => hcj fun G hG => (hsat G (Or.inr (Or.inr hG))).mp (hall G hG)

/-- **C03, soundness with no side condition**: for a universal task (either representation, all flags),
    if NO emitted problem has a countermodel then the programs have the same here-and-there models. -/
theorem strong_valid_implies_equivalent (t : StrongTask) (hdir : t.direction = .universal) (fuel : Nat)
    (ps : List Problem) (h : strongProblems t fuel = some ps)
    (hvalid : ∀ P ∈ ps, ∀ J ρ, ¬ Refutes J ρ P) :
    ∀ M : HTI, M.Sub → (progSat M .here t.left ↔ progSat M .here t.right) := by
  obtain ⟨l, r, hl, hr, hmem⟩ := strongProblems_some h
  intro M hs
  obtain ⟨J0, hm⟩ := C05.merge_exists M
  have ρ : Asg := fun _ => .inf
  have hL := processTheory_sem t fuel t.left l hl hm (fun _ => hs) ρ
  have hR := processTheory_sem t fuel t.right r hr hm (fun _ => hs) ρ
  have htr : ∀ F ∈ transitionAxioms t, sat J0 F ρ :=
    (transitionAxioms_sem hm t ρ).mpr fun p _ ds _ hh => hs _ _ hh
  constructor
  · intro hLs
    refine Classical.byContradiction fun hRs => ?_
    obtain ⟨J1, P, hP, href⟩ := direction_countermodel J0 ρ "forward" (transitionAxioms t) l r "left_" "right_"
      t.decomposition htr (hL.mpr hLs) (fun hall => hRs (hR.mp hall))
    exact hvalid P ((hmem P).mpr (Or.inl ⟨Or.inl hdir, hP⟩)) J1 ρ href
  · intro hRs
    refine Classical.byContradiction fun hLs => ?_
    obtain ⟨J1, P, hP, href⟩ := direction_countermodel J0 ρ "backward" (transitionAxioms t) r l "right_" "left_"
      t.decomposition htr (hR.mpr hRs) (fun hall => hLs (hL.mp hall))
    exact hvalid P ((hmem P).mpr (Or.inr ⟨Or.inl hdir, hP⟩)) J1 ρ href

end Anthem
