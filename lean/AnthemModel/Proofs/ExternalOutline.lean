/-
  C02 with a proof outline: if no emitted problem of a task with an outline has a countermodel, then the
  parts assembled for the same task *without* the outline cannot be refuted - the lemmas and definitions of
  an accepted outline only help the prover, they do not change what is claimed. Proved on the level of the
  parts (`SemRef`); the form about emitted problems, with `rename_conflicting_symbols` the identity, follows.
-/
import AnthemModel.Proofs.OutlineDefs
import AnthemModel.Proofs.ExternalSemGen
namespace Anthem.Outline

attribute [local irreducible] Problem.renameConflictingSymbols
open Asp

theorem sat_agree_base (base : List Pred) (J : Interp) (P' : PredI)
    (hagree : ∀ q ds, (⟨q, ds.length⟩ : Pred) ∈ base → (P' q ds ↔ J.pred q ds)) (F : Formula)
    (hF : ∀ q ∈ F.preds, q ∈ base) (ρ : Asg) : sat ⟨P', J.fc⟩ F ρ ↔ sat J F ρ :=
  sat_congr_preds J.fc P' J.pred F ρ fun q hq ds hlen => hagree q.symbol ds (by rw [hlen]; exact hF q hq)

theorem semRef_split {J : Interp} {ρ : Asg} {axParts : List (List AnnF)} {concs : List AnnF}
    (hax : ∀ part ∈ axParts, ∀ a ∈ part, a.role = .axiom) (hc : ∀ c ∈ concs, c.role = .conjecture) :
    SemRef J ρ (axParts ++ [concs]) ↔
      (∀ part ∈ axParts, ∀ a ∈ part, sat J a.formula ρ) ∧ ¬ ∀ c ∈ concs, sat J c.formula ρ := by
  unfold SemRef
  simp only [List.forall_mem_append, List.forall_mem_singleton]
  constructor
  · rintro ⟨⟨h1, _⟩, hn⟩
    refine ⟨fun part hp a ha => h1 part hp a ha (hax part hp a ha), fun hall => hn ⟨fun part hp a ha hr => ?_, fun c hcc _ => hall c hcc⟩⟩
    rw [hax part hp a ha] at hr; cases hr
  · rintro ⟨h1, hn⟩
    refine ⟨⟨fun part hp a ha _ => h1 part hp a ha, fun c hcc hr => ?_⟩, fun hall => hn fun c hcc => hall.2 c hcc (hc c hcc)⟩
    rw [hc c hcc] at hr; cases hr

theorem conjOf_flatMap_sem (J : Interp) (ρ : Asg) (brk : Bool) (l : List SAnn) :
    (∀ c ∈ l.flatMap (conjOf brk), c.role = .conjecture) ∧
    ((∀ c ∈ l.flatMap (conjOf brk), sat J c.formula ρ) ↔ ∀ a ∈ l, sat J a.formula ρ) := by
  simp only [List.mem_flatMap, forall_exists_index, and_imp]
  exact ⟨fun c a _ hc => (conjOf_sem J ρ brk a).1 c hc,
    fun h a ha => (conjOf_sem J ρ brk a).2.mp fun c hc => h c a ha hc,
    fun h c a ha hc => (conjOf_sem J ρ brk a).2.mpr (h a ha) c hc⟩

theorem direction_sound_sem (base : List Pred) (name dirName : String) (stable prem : List AnnF) (concSrc defs : List SAnn)
    (brk : Bool) (lemmas : List GeneralLemma) (dec : Decomposition)
    (hroles : ∀ a ∈ stable ++ prem, a.role = .axiom)
    (hpredsAx : ∀ a ∈ stable ++ prem, ∀ q ∈ a.formula.preds, q ∈ base)
    (hpredsC : ∀ a ∈ concSrc, ∀ q ∈ a.formula.preds, q ∈ base)
    (hext : DefsExt base defs) (hgood : ∀ l ∈ lemmas, GLGood l)
    (hvalidO : ∀ P ∈ outlineProblems dirName (stable ++ prem ++ defs.map (·.toProblem .axiom)) lemmas,
      ∀ J ρ, ¬ Refutes J ρ P)
    (hvalidF : ∀ P ∈ (mkProblem name [stable, prem, lemmas.flatMap (·.consequences), concSrc.flatMap (conjOf brk)]).decompose dec,
      ∀ J ρ, ¬ Refutes J ρ P) :
    ∀ J ρ, ¬ SemRef J ρ [stable, prem, [], concSrc.flatMap (conjOf brk)] := by
  intro J ρ hsem
  have hparts : ∀ (extra : List AnnF), (∀ a ∈ extra, a.role = .axiom) →
      ∀ part ∈ [stable, prem, extra], ∀ a ∈ part, a.role = .axiom := by
    intro extra hextra part hpart
    simp only [List.mem_cons, List.not_mem_nil, or_false] at hpart
    rcases hpart with rfl | rfl | rfl
    · exact fun a ha => hroles a (List.mem_append.mpr (Or.inl ha))
    · exact fun a ha => hroles a (List.mem_append.mpr (Or.inr ha))
    · exact hextra
  obtain ⟨hax, hncj⟩ := (semRef_split (hparts [] (fun _ h => nomatch h)) (conjOf_flatMap_sem J ρ brk concSrc).1).mp hsem
  -- `J'` makes the definitions true and agrees with `J` on everything else that is mentioned
  obtain ⟨P', hagree, hdefs⟩ := hext J
  have haxJ' : ∀ a ∈ stable ++ prem, sat ⟨P', J.fc⟩ a.formula ρ := by
    intro a ha
    rw [sat_agree_base base J P' hagree a.formula (hpredsAx a ha) ρ]
    rcases List.mem_append.mp ha with h1 | h1
    · exact hax stable List.mem_cons_self a h1
    · exact hax prem (List.mem_cons_of_mem _ List.mem_cons_self) a h1
  -- so every lemma is true in `J'`, and `J'` refutes the final parts
  have hlem := outline_sound_valid dirName _ lemmas (fun l hl => (hgood l hl).1) (fun l hl => (hgood l hl).2.1) hvalidO
    ⟨P', J.fc⟩ ρ fun a ha => (List.mem_append.mp ha).elim (haxJ' a) fun h1 => by
      obtain ⟨d, hd, rfl⟩ := List.mem_map.mp h1
      exact hdefs d hd ρ
  have hlemR : ∀ a ∈ lemmas.flatMap (·.consequences), a.role = .axiom := by
    intro a ha
    obtain ⟨l, hl, ha⟩ := List.mem_flatMap.mp ha
    exact (hgood l hl).2.2 a ha
  refine valid_family name _ dec hvalidF ⟨P', J.fc⟩ ρ
    ((semRef_split (hparts _ hlemR) (conjOf_flatMap_sem J ρ brk concSrc).1).mpr ⟨fun part hpart a ha => ?_, fun hall => hncj ?_⟩)
  · simp only [List.mem_cons, List.not_mem_nil, or_false] at hpart
    rcases hpart with rfl | rfl | rfl
    · exact haxJ' a (List.mem_append.mpr (Or.inl ha))
    · exact haxJ' a (List.mem_append.mpr (Or.inr ha))
    · obtain ⟨l, hl, ha⟩ := List.mem_flatMap.mp ha
      exact hlem l hl a ha
  · rw [(conjOf_flatMap_sem _ ρ brk concSrc).2] at hall ⊢
    exact fun a ha => (sat_agree_base base J P' hagree a.formula (hpredsC a ha) ρ).mp (hall a ha)

theorem assembled_outline_sound_sem (t : ExternalTask) (left ugAss : List SAnn) (ΓR : Theory) (po : ProofOutline)
    (base : List Pred) (hgood : POGood po)
    (hdefs : DefsExt base po.forwardDefinitions ∧ DefsExt base po.backwardDefinitions)
    (hbase : ∀ a ∈ ugAss ++ left ++ rightSide t ΓR, ∀ q ∈ a.formula.preds, q ∈ base)
    (hvalid : ∀ P ∈ assembledProblems (assembledGen t left ugAss ΓR) po t.decomposition t.direction,
      ∀ J ρ, ¬ Refutes J ρ P) :
    ((t.direction = .universal ∨ t.direction = .forward) → ∀ J ρ,
      ¬ SemRef J ρ [(assembledGen t left ugAss ΓR).stable, (assembledGen t left ugAss ΓR).fwdPremises, [],
        (assembledGen t left ugAss ΓR).fwdConclusions]) ∧
    ((t.direction = .universal ∨ t.direction = .backward) → ∀ J ρ,
      ¬ SemRef J ρ [(assembledGen t left ugAss ΓR).stable, (assembledGen t left ugAss ΓR).bwdPremises, [],
        (assembledGen t left ugAss ΓR).bwdConclusions]) := by
  -- the stable part and the premises of either direction are axioms over the predicates of `base`
  have hax : ∀ l : List SAnn, (∀ a ∈ l, a ∈ ugAss ++ left ++ rightSide t ΓR) →
      ∀ a ∈ l.map (·.toProblem .axiom), a.role = .axiom ∧ ∀ q ∈ a.formula.preds, q ∈ base := by
    intro l hl a ha
    obtain ⟨a0, ha0, rfl⟩ := List.mem_map.mp ha
    exact ⟨rfl, hbase a0 (hl a0 ha0)⟩
  have hL : ∀ p : SAnn → Bool, ∀ a ∈ left.filter p, a ∈ ugAss ++ left ++ rightSide t ΓR :=
    fun p a ha => List.mem_append.mpr (Or.inl (List.mem_append.mpr (Or.inr (List.mem_filter.mp ha).1)))
  have hR : ∀ p : SAnn → Bool, ∀ a ∈ (rightSide t ΓR).filter p, a ∈ ugAss ++ left ++ rightSide t ΓR :=
    fun p a ha => List.mem_append.mpr (Or.inr (List.mem_filter.mp ha).1)
  have hstable : ∀ a ∈ (assembledGen t left ugAss ΓR).stable, a.role = .axiom ∧ ∀ q ∈ a.formula.preds, q ∈ base := by
    unfold assembledGen
    simp only [List.forall_mem_append]
    exact ⟨⟨hax _ fun a ha => List.mem_append.mpr (Or.inl (List.mem_append.mpr (Or.inl ha))), hax _ (hL _)⟩, hax _ (hR _)⟩
  have hboth : ∀ prem : List AnnF, (∀ a ∈ prem, a.role = .axiom ∧ ∀ q ∈ a.formula.preds, q ∈ base) →
      ∀ a ∈ (assembledGen t left ugAss ΓR).stable ++ prem, a.role = .axiom ∧ ∀ q ∈ a.formula.preds, q ∈ base :=
    fun prem hp a ha => (List.mem_append.mp ha).elim (hstable a) (hp a)
  unfold assembledProblems at hvalid
  simp only [List.mem_append] at hvalid
  refine ⟨fun hd => ?_, fun hd => ?_⟩
  · have hb := hboth _ (hax _ (hL lFwdPrem))
    refine direction_sound_sem base "forward_problem" "forward" _ _ ((rightSide t ΓR).filter isSpec) po.forwardDefinitions
      t.breakEq po.forwardLemmas t.decomposition (fun a ha => (hb a ha).1) (fun a ha => (hb a ha).2)
      (fun a ha => hbase a (hR _ a ha)) hdefs.1 hgood.1
      (fun Q hQ => hvalid Q (Or.inl ?_)) (fun Q hQ => hvalid Q (Or.inl ?_))
    · rw [if_pos hd]; exact List.mem_append.mpr (Or.inl hQ)
    · rw [if_pos hd]; exact List.mem_append.mpr (Or.inr hQ)
  · have hb := hboth _ (hax _ (hR isSpec))
    refine direction_sound_sem base "backward_problem" "backward" _ _ (left.filter lBwdConc) po.backwardDefinitions
      t.breakEq po.backwardLemmas t.decomposition (fun a ha => (hb a ha).1) (fun a ha => (hb a ha).2)
      (fun a ha => hbase a (hL _ a ha)) hdefs.2 hgood.2
      (fun Q hQ => hvalid Q (Or.inr ?_)) (fun Q hQ => hvalid Q (Or.inr ?_))
    · rw [if_pos hd]; exact List.mem_append.mpr (Or.inl hQ)
    · rw [if_pos hd]; exact List.mem_append.mpr (Or.inr hQ)

structure NoConflictAll (a : Assembled) (fconc bconc : List SAnn) (brk : Bool) (po : ProofOutline) : Prop where
  fwd0 : (mkProblem0 "forward_problem" [a.stable, a.fwdPremises, [], fconc.flatMap (conjOf brk)]).renameConflictingSymbols =
    mkProblem0 "forward_problem" [a.stable, a.fwdPremises, [], fconc.flatMap (conjOf brk)]
  bwd0 : (mkProblem0 "backward_problem" [a.stable, a.bwdPremises, [], bconc.flatMap (conjOf brk)]).renameConflictingSymbols =
    mkProblem0 "backward_problem" [a.stable, a.bwdPremises, [], bconc.flatMap (conjOf brk)]
  fwd1 : (mkProblem0 "forward_problem" [a.stable, a.fwdPremises, po.forwardLemmas.flatMap (·.consequences),
      fconc.flatMap (conjOf brk)]).renameConflictingSymbols =
    mkProblem0 "forward_problem" [a.stable, a.fwdPremises, po.forwardLemmas.flatMap (·.consequences), fconc.flatMap (conjOf brk)]
  bwd1 : (mkProblem0 "backward_problem" [a.stable, a.bwdPremises, po.backwardLemmas.flatMap (·.consequences),
      bconc.flatMap (conjOf brk)]).renameConflictingSymbols =
    mkProblem0 "backward_problem" [a.stable, a.bwdPremises, po.backwardLemmas.flatMap (·.consequences), bconc.flatMap (conjOf brk)]
  fwdO : NoConflictOutline "forward" (a.stable ++ a.fwdPremises ++ po.forwardDefinitions.map (·.toProblem .axiom)) po.forwardLemmas
  bwdO : NoConflictOutline "backward" (a.stable ++ a.bwdPremises ++ po.backwardDefinitions.map (·.toProblem .axiom)) po.backwardLemmas

theorem assembled_outline_sound (t : ExternalTask) (left ugAss : List SAnn) (ΓR : Theory) (po : ProofOutline)
    (base : List Pred) (hgood : POGood po)
    (hdefs : DefsExt base po.forwardDefinitions ∧ DefsExt base po.backwardDefinitions)
    (hbase : ∀ a ∈ ugAss ++ left ++ rightSide t ΓR, ∀ q ∈ a.formula.preds, q ∈ base)
    (hnc : NoConflictAll (assembledGen t left ugAss ΓR) ((rightSide t ΓR).filter isSpec) (left.filter lBwdConc) t.breakEq po)
    (hvalid : ∀ P ∈ assembledProblems (assembledGen t left ugAss ΓR) po t.decomposition t.direction,
      ∀ J ρ, ¬ Refutes J ρ P) :
    ∀ P ∈ assembledProblems (assembledGen t left ugAss ΓR) {} t.decomposition t.direction, ∀ J ρ, ¬ Refutes J ρ P := by
  obtain ⟨hF, hB⟩ := assembled_outline_sound_sem t left ugAss ΓR po base hgood hdefs hbase hvalid
  intro P hP J ρ href
  unfold assembledProblems at hP
  rcases List.mem_append.mp hP with hP | hP <;> split at hP
  · exact hF ‹_› J ρ ((mk_refutes J ρ _ _ _ hnc.fwd0).mp ⟨P, hP, href⟩)
  · cases hP
  · exact hB ‹_› J ρ ((mk_refutes J ρ _ _ _ hnc.bwd0).mp ⟨P, hP, href⟩)
  · cases hP

end Anthem.Outline
