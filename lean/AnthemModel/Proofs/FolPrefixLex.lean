/-
  What the prefix lexers (`not`, `forall`/`exists`) do in front of names and keywords, and the
  variable lexer on a printed variable. Needs only the lexical lemmas, not the term parsers.
-/
import AnthemModel.Proofs.FolLex
import AnthemModel.Proofs.AspTermRT
namespace Anthem.Fol
open Anthem.Asp (isWs skip stripPrefix isIdChar isNonzeroDigit SymName NoId StopsAt Solid StartsSolid
  takeWhile_append_stop noId_cons skip_cons_solid skip_of_startsSolid skip_space stripPrefix_head_ne
  stripPrefix_append stripPrefix_noId parenLL parenIf_toList parenLL_startsSolid)

def Var.printL (v : Var) : List Char :=
  match v.sort with
  | .general => v.name.toList
  | .integer => v.name.toList ++ ['$', 'i']
  | .symbol => v.name.toList ++ ['$', 's']

def varsL : List Var → List Char
  | [] => []
  | v :: vs => ' ' :: (Var.printL v ++ varsL vs)

def qwordL : Quant → List Char
  | .all => ['f', 'o', 'r', 'a', 'l', 'l']
  | .ex => ['e', 'x', 'i', 's', 't', 's']

theorem keyword_miss : ∀ (kw l X : List Char), (∀ x ∈ kw, isIdChar x = true) → (∀ x ∈ l, isIdChar x = true) →
    l ≠ kw → NoId X →
    stripPrefix kw (l ++ X) = none ∨ ∃ r, stripPrefix kw (l ++ X) = some r ∧ notIdNext r = false := by
  intro kw
  induction kw with
  | nil =>
    intro l X _ hl hne _
    cases l with
    | nil => exact absurd rfl hne
    | cons c l => exact Or.inr ⟨_, rfl, by rw [List.cons_append, notIdNext, hl c List.mem_cons_self]; rfl⟩
  | cons k ks ih =>
    intro l X hk hl hne hX
    cases l with
    | nil => exact Or.inl (stripPrefix_noId ks (hk k List.mem_cons_self) hX)
    | cons c l =>
      by_cases e : k = c
      · rw [List.cons_append, stripPrefix, if_pos e]
        exact ih l X (fun x hx => hk x (List.mem_cons_of_mem _ hx)) (fun x hx => hl x (List.mem_cons_of_mem _ hx))
          (fun h => hne (by rw [h, e])) hX
      · exact Or.inl (stripPrefix_head_ne _ _ e)

theorem notWordNext_of_notIdNext {r : List Char} (h : notIdNext r = false) : notWordNext r = false := by
  cases r with
  | nil => simp [notIdNext] at h
  | cons c r' =>
    simp only [notIdNext, Bool.not_eq_false'] at h
    simp [notWordNext, h]

theorem variablesL_none (n : Nat) (r : List Char) (h : lexVariable (skip r) = none) : variablesL n r = ([], r) := by
  cases n with
  | zero => rfl
  | succ n => simp [variablesL, h]

theorem prefix_keywords : "forall".toList = qwordL .all ∧ "exists".toList = qwordL .ex ∧
    "not".toList = ['n', 'o', 't'] := by decide +kernel

def QuantMiss (kw : List Char) (cs : List Char) : Prop :=
  stripPrefix kw cs = none ∨ ∃ r, stripPrefix kw cs = some r ∧ (notIdNext r = false ∨ ∀ n, variablesL n r = ([], r))

theorem prefixL_of_misses (cs : List Char) (h1 : QuantMiss (qwordL .all) cs) (h2 : QuantMiss (qwordL .ex) cs)
    (h3 : stripPrefix ['n', 'o', 't'] cs = none ∨ ∃ r, stripPrefix ['n', 'o', 't'] cs = some r ∧ notWordNext r = false) :
    prefixL cs = none := by
  unfold prefixL
  rw [prefix_keywords.1, prefix_keywords.2.1, prefix_keywords.2.2]
  -- each hypothesis, in whichever way it holds, sends one `match`/`if` of `prefixL` to its `none` branch;
  -- `exists` is only tried where `forall` is no prefix of the text
  rcases h1 with h1 | ⟨r1, h1, n1 | n1⟩
  · rcases h2 with h2 | ⟨r2, h2, n2 | n2⟩ <;> rcases h3 with h3 | ⟨r3, h3, n3⟩ <;>
      simp only [*, Bool.false_eq_true, if_false, ite_self]
  · rcases h3 with h3 | ⟨r3, h3, n3⟩ <;> simp only [*, Bool.false_eq_true, if_false]
  · rcases h3 with h3 | ⟨r3, h3, n3⟩ <;> simp only [*, Bool.false_eq_true, if_false, ite_self]

/-- the name is none of the keywords, or it is `forall` / `exists` followed by no variable, or `not`
    followed by `$` -/
theorem prefixL_name (l X : List Char) (hs : SymName l) (hnot : l ≠ ['n', 'o', 't'] ∨ ∃ r, X = '$' :: r)
    (hX : NoId X) (hv : lexVariable (skip X) = none) : prefixL (l ++ X) = none := by
  have quant : ∀ kw : List Char, (∀ x ∈ kw, isIdChar x = true) → QuantMiss kw (l ++ X) := by
    intro kw hk
    by_cases e : l = kw
    · right
      refine ⟨X, ?_, Or.inr (fun n => variablesL_none n X hv)⟩
      exact e ▸ stripPrefix_append l X
    · rcases keyword_miss kw l X hk hs.idChars e hX with h | ⟨r, h1, h2⟩
      · exact Or.inl h
      · exact Or.inr ⟨r, h1, Or.inl h2⟩
  refine prefixL_of_misses _ (quant _ (by decide)) (quant _ (by decide)) ?_
  by_cases e : l = ['n', 'o', 't']
  · rcases hnot with hnot | ⟨r, rfl⟩
    · exact absurd e hnot
    · exact Or.inr ⟨'$' :: r, e ▸ stripPrefix_append _ _, rfl⟩
  · rcases keyword_miss ['n', 'o', 't'] l X (by decide) hs.idChars e hX with h | ⟨r, h1, h2⟩
    · exact Or.inl h
    · exact Or.inr ⟨r, h1, notWordNext_of_notIdNext h2⟩

theorem prefixL_head (c : Char) (r : List Char) (h1 : c ≠ 'f') (h2 : c ≠ 'e') (h3 : c ≠ 'n') : prefixL (c :: r) = none :=
  prefixL_of_misses _ (Or.inl (stripPrefix_head_ne _ _ (Ne.symm h1))) (Or.inl (stripPrefix_head_ne _ _ (Ne.symm h2)))
    (Or.inl (stripPrefix_head_ne _ _ (Ne.symm h3)))

theorem prefixL_neg {cs r : List Char} (hf : stripPrefix (qwordL .all) cs = none)
    (he : stripPrefix (qwordL .ex) cs = none) (hn : stripPrefix ['n', 'o', 't'] cs = some r)
    (hw : notWordNext r = true) : prefixL cs = some (.pneg, r) := by
  unfold prefixL
  simp only [prefix_keywords, hf, he, hn, hw, if_true]

theorem prefixL_pquant (q : Quant) {cs r r' : List Char} {v : Var} {vs : List Var}
    (hq : stripPrefix (qwordL q) cs = some r) (hf : q = .ex → stripPrefix (qwordL .all) cs = none)
    (hid : notIdNext r = true) (hv : variablesL (r.length + 1) r = (v :: vs, r')) :
    prefixL cs = some (.pquant q (v :: vs), r') := by
  unfold prefixL
  cases q with
  | all => simp only [prefix_keywords, hq, hid, hv, if_true]
  | ex => simp only [prefix_keywords, hf rfl, hq, hid, hv, if_true]

theorem prefixL_not (X : List Char) : prefixL ('n' :: 'o' :: 't' :: ' ' :: X) = some (.pneg, ' ' :: X) :=
  prefixL_neg (stripPrefix_head_ne _ _ (by decide)) (stripPrefix_head_ne _ _ (by decide))
    (stripPrefix_append ['n', 'o', 't'] (' ' :: X)) rfl

def Var.WF (v : Var) : Prop := UVName v.name.toList

theorem lexVariable_printL (v : Var) (hv : Var.WF v) (Y : List Char) :
    lexVariable (Var.printL v ++ ' ' :: Y) = some (v, ' ' :: Y) := by
  obtain ⟨n, s⟩ := v
  have hs : UVName n.toList := hv
  have hY : NoId (' ' :: Y) := noId_cons Y (by decide)
  cases s with
  | general =>
    obtain ⟨h1, h2, h3⟩ := lexVars_plain n.toList (' ' :: Y) hs hY
      fun _ e => by injection e with e _; exact absurd e (by decide)
    simp only [Var.printL, lexVariable, h1, h2, h3, String.ofList_toList]
  | integer =>
    rw [show Var.printL ⟨n, .integer⟩ ++ ' ' :: Y = n.toList ++ '$' :: 'i' :: ' ' :: Y from List.append_assoc ..]
    simp only [lexVariable, lexIntVar_sortI _ _ hs hY, String.ofList_toList]
  | symbol =>
    rw [show Var.printL ⟨n, .symbol⟩ ++ ' ' :: Y = n.toList ++ '$' :: 's' :: ' ' :: Y from List.append_assoc ..]
    obtain ⟨h1, h2⟩ := lexVars_sortS _ _ hs hY
    simp only [lexVariable, h1, h2, String.ofList_toList]

end Anthem.Fol
