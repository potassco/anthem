/-
  Shared metatheory (DESIGN.md 3.5): membership in the insertion-ordered sets, the free-variable
  predicate, agreement (satisfaction depends only on the free variables), the characterisation
  of sequential binder lists by the *set* of bound variables (`AllUpd`, `bindAll_iff`,
  `bindEx_iff`), `bindQ` for both quantifiers with `bindQ_transfer`, from which the facts about
  binder lists are instances, `quantify`, and `zval`, the value of `Var.toTerm`.
-/
import AnthemModel.Semantics.Fol
namespace Anthem

theorem mem_ins {α} [DecidableEq α] {s : List α} {a x : α} : x ∈ ins s a ↔ x ∈ s ∨ x = a := by
  unfold ins
  split
  · constructor
    · exact Or.inl
    · rintro (h | rfl) <;> assumption
  · simp

theorem mem_ext {α} [DecidableEq α] {s t : List α} {x : α} : x ∈ ext s t ↔ x ∈ s ∨ x ∈ t := by
  unfold ext
  induction t generalizing s with
  | nil => simp
  | cons a t ih => simp only [List.foldl_cons, ih, mem_ins, List.mem_cons]; exact or_assoc

theorem nodup_ins {α} [DecidableEq α] {s : List α} {a : α} (h : s.Nodup) : (ins s a).Nodup := by
  unfold ins
  split
  · exact h
  · rename_i hn
    exact List.nodup_append.mpr ⟨h, (by simp), by
      intro x hx y hy; simp at hy; subst hy; intro e; subst e; exact hn hx⟩

theorem nodup_ext {α} [DecidableEq α] {s t : List α} (h : s.Nodup) : (ext s t).Nodup := by
  unfold ext
  induction t generalizing s with
  | nil => simpa
  | cons a t ih => exact ih (nodup_ins h)

theorem mem_foldl_ext {α β} [DecidableEq β] (f : α → List β) (xs : List α) (init : List β) (x : β) :
    x ∈ xs.foldl (fun acc t => ext acc (f t)) init ↔ x ∈ init ∨ ∃ t ∈ xs, x ∈ f t := by
  induction xs generalizing init with
  | nil => simp
  | cons a xs ih =>
    simp only [List.foldl_cons, ih, mem_ext, List.mem_cons, exists_eq_or_imp]
    exact or_assoc

theorem nodup_foldl_ext {α β} [DecidableEq β] (f : α → List β) (xs : List α) (init : List β)
    (h : init.Nodup) : (xs.foldl (fun acc t => ext acc (f t)) init).Nodup := by
  induction xs generalizing init with
  | nil => simpa
  | cons a xs ih => exact ih _ (nodup_ext h)

theorem ITerm.vars_nodup (t : ITerm) : t.vars.Nodup := by
  induction t with
  | num _ | fc _ => simp [ITerm.vars]
  | var _ => simp [ITerm.vars]
  | neg t ih => simpa [ITerm.vars]
  | bin op l r ihl _ => exact nodup_ext ihl

theorem GTerm.vars_nodup (t : GTerm) : t.vars.Nodup := by
  cases t with
  | inf | sup | fc _ => simp [GTerm.vars]
  | var _ => simp [GTerm.vars]
  | int t => exact t.vars_nodup
  | symb t => cases t <;> simp [GTerm.vars, STerm.vars]

theorem ITerm.eval_congr (fc : FcI) {ρ ρ' : Asg} (t : ITerm) (h : ∀ v ∈ t.vars, ρ v = ρ' v) :
    t.eval fc ρ = t.eval fc ρ' := by
  induction t with
  | num _ | fc _ => rfl
  | var x => exact congrArg Dom.toInt (h ⟨x, .integer⟩ (List.mem_singleton.mpr rfl))
  | neg t ih => exact congrArg (- ·) (ih h)
  | bin op l r ihl ihr =>
    show op.eval _ _ = op.eval _ _
    rw [ihl fun v hv => h v (mem_ext.mpr (Or.inl hv)), ihr fun v hv => h v (mem_ext.mpr (Or.inr hv))]

theorem GTerm.eval_congr (fc : FcI) {ρ ρ' : Asg} (t : GTerm) (h : ∀ v ∈ t.vars, ρ v = ρ' v) :
    t.eval fc ρ = t.eval fc ρ' := by
  cases t with
  | inf | sup | fc _ => rfl
  | var x => exact h ⟨x, .general⟩ (List.mem_singleton.mpr rfl)
  | int t => exact congrArg Dom.num (ITerm.eval_congr fc t h)
  | symb t =>
    cases t with
    | sym _ | fc _ => rfl
    | var x => exact congrArg (fun d => Dom.sym d.toStr) (h ⟨x, .symbol⟩ (List.mem_singleton.mpr rfl))

theorem cmpChain_congr (fc : FcI) {ρ ρ' : Asg} (gs : List Guard) (d : Dom)
    (h : ∀ g ∈ gs, ∀ v ∈ g.term.vars, ρ v = ρ' v) : cmpChain fc ρ d gs ↔ cmpChain fc ρ' d gs := by
  induction gs generalizing d with
  | nil => simp [cmpChain]
  | cons g gs ih =>
    simp only [cmpChain]
    rw [GTerm.eval_congr fc g.term (h g List.mem_cons_self),
      ih _ (fun g' hg' => h g' (List.mem_cons_of_mem _ hg'))]

theorem AtomicF.vars_nodup (a : AtomicF) : a.vars.Nodup := by
  cases a with
  | tru | fls => simp [AtomicF.vars]
  | atom a => exact nodup_foldl_ext _ _ _ List.nodup_nil
  | cmp t gs => exact nodup_foldl_ext _ _ _ t.vars_nodup

theorem AtomicF.sat_congr (P : PredI) (fc : FcI) {ρ ρ' : Asg} (a : AtomicF)
    (h : ∀ v ∈ a.vars, ρ v = ρ' v) : a.sat P fc ρ ↔ a.sat P fc ρ' := by
  cases a with
  | tru | fls => exact Iff.rfl
  | atom a =>
    simp only [AtomicF.sat]
    have : a.args.map (GTerm.eval fc ρ) = a.args.map (GTerm.eval fc ρ') := by
      apply List.map_congr_left
      intro t ht
      apply GTerm.eval_congr
      intro v hv
      apply h
      simp only [AtomicF.vars, mem_foldl_ext]
      exact Or.inr ⟨t, ht, hv⟩
    rw [this]
  | cmp t gs =>
    simp only [AtomicF.sat]
    simp only [AtomicF.vars, mem_foldl_ext] at h
    rw [GTerm.eval_congr fc t (fun v hv => h v (Or.inl hv))]
    exact cmpChain_congr fc gs _ (fun g hg v hv => h v (Or.inr ⟨g, hg, hv⟩))

/-- freeness without the list bookkeeping: `v ∈ F.fv ↔ F.FV v` (`Formula.mem_fv`) -/
def Formula.FV : Formula → Var → Prop
  | .atomic a, v => v ∈ a.vars
  | .not f, v => f.FV v
  | .bin _ l r, v => l.FV v ∨ r.FV v
  | .quant _ vs f, v => f.FV v ∧ v ∉ vs

theorem mem_foldl_erase {vs acc : List Var} (h : acc.Nodup) {x : Var} :
    x ∈ vs.foldl (fun a v => a.erase v) acc ↔ x ∈ acc ∧ x ∉ vs := by
  induction vs generalizing acc with
  | nil => simp
  | cons v vs ih =>
    simp only [List.foldl_cons, ih (h.erase v), h.mem_erase_iff, List.mem_cons, not_or]
    exact ⟨fun ⟨⟨a, b⟩, c⟩ => ⟨b, a, c⟩, fun ⟨b, a, c⟩ => ⟨⟨a, b⟩, c⟩⟩

theorem nodup_foldl_erase {vs acc : List Var} (h : acc.Nodup) :
    (vs.foldl (fun a v => a.erase v) acc).Nodup := by
  induction vs generalizing acc with
  | nil => simpa
  | cons v vs ih => exact ih (h.erase v)

theorem Formula.fv_nodup (F : Formula) : F.fv.Nodup := by
  induction F with
  | atomic a => exact a.vars_nodup
  | not f ih => exact ih
  | bin c l r ihl _ => exact nodup_ext ihl
  | quant q vs f ih => exact nodup_foldl_erase ih

theorem Formula.mem_fv {F : Formula} {v : Var} : v ∈ F.fv ↔ F.FV v := by
  induction F with
  | atomic a => exact Iff.rfl
  | not f ih => exact ih
  | bin c l r ihl ihr => simp [Formula.fv, Formula.FV, mem_ext, ihl, ihr]
  | quant q vs f ih => simp [Formula.fv, Formula.FV, mem_foldl_erase f.fv_nodup, ih]

theorem Asg.set_comm (ρ : Asg) {v x : Var} (h : v ≠ x) (a d : Dom) :
    (ρ.set x d).set v a = (ρ.set v a).set x d := by
  funext u
  by_cases e : u = v
  · subst e; rw [Asg.set_same, Asg.set_other _ _ h, Asg.set_same]
  · rw [Asg.set_other _ _ e]
    by_cases e' : u = x
    · subst e'; rw [Asg.set_same, Asg.set_same]
    · rw [Asg.set_other _ _ e', Asg.set_other _ _ e', Asg.set_other _ _ e]

theorem Asg.set_self (τ : Asg) (v : Var) : τ.set v (τ v) = τ := by
  funext u
  by_cases e : u = v
  · subst e; exact Asg.set_same _ _ _
  · exact Asg.set_other _ _ e

/-- `τ` differs from `ρ` only on `L` and is well-sorted there: the assignments a binder list `L`
    ranges over, for `bindAll` (`bindAll_iff`) and `bindEx` (`bindEx_iff`) alike. -/
def AllUpd (L : List Var) (ρ τ : Asg) : Prop :=
  (∀ v, v ∉ L → τ v = ρ v) ∧ (∀ v ∈ L, (τ v).inSort v.sort)

theorem AllUpd.nil {ρ τ : Asg} : AllUpd [] ρ τ ↔ τ = ρ :=
  ⟨fun h => funext fun v => h.1 v List.not_mem_nil, fun h => h ▸ ⟨fun _ _ => rfl, fun _ hv => nomatch hv⟩⟩

theorem AllUpd.cons {x : Var} {xs : List Var} {ρ τ : Asg} :
    AllUpd (x :: xs) ρ τ ↔ ∃ d, d.inSort x.sort ∧ AllUpd xs (ρ.set x d) τ := by
  constructor
  · intro ⟨h1, h2⟩
    refine ⟨τ x, h2 x List.mem_cons_self, fun v hv => ?_, fun v hv => h2 v (List.mem_cons_of_mem _ hv)⟩
    by_cases e : v = x
    · subst e; exact (Asg.set_same _ _ _).symm
    · rw [Asg.set_other _ _ e]; exact h1 v (fun h => (List.mem_cons.mp h).elim e hv)
  · intro ⟨d, hd, h1, h2⟩
    refine ⟨fun v hv => ?_, fun v hv => ?_⟩
    · have ⟨e, hv'⟩ := not_or.mp (fun h => hv (List.mem_cons.mpr h))
      rw [h1 v hv', Asg.set_other _ _ e]
    · by_cases hvx : v ∈ xs
      · exact h2 v hvx
      · have e : v = x := (List.mem_cons.mp hv).resolve_right hvx
        subst e
        rw [h1 v hvx, Asg.set_same]; exact hd

theorem AllUpd.set {L : List Var} {ρ τ : Asg} (hτ : AllUpd L ρ τ) {v : Var} (hv : v ∈ L) {d : Dom}
    (hd : d.inSort v.sort) : AllUpd L ρ (τ.set v d) := by
  refine ⟨fun u hu => ?_, fun u hu => ?_⟩
  · rw [Asg.set_other _ _ fun (e : u = v) => hu (e ▸ hv)]; exact hτ.1 u hu
  · by_cases e : u = v
    · subst e; rw [Asg.set_same]; exact hd
    · rw [Asg.set_other _ _ e]; exact hτ.2 u hu

def Srt.default : Srt → Dom
  | .general => .inf
  | .integer => .num 0
  | .symbol => .sym ""

theorem Srt.default_inSort (s : Srt) : (s.default).inSort s := by cases s <;> trivial

theorem exists_allUpd (L : List Var) (ρ : Asg) : ∃ τ, AllUpd L ρ τ :=
  ⟨fun v => if v ∈ L then v.sort.default else ρ v, fun _ hv => if_neg hv,
    fun v hv => by simp only [if_pos hv]; exact Srt.default_inSort _⟩

theorem bindAll_iff {L : List Var} {P : Asg → Prop} {ρ : Asg} :
    bindAll L P ρ ↔ ∀ τ, AllUpd L ρ τ → P τ := by
  induction L generalizing ρ with
  | nil => exact ⟨fun h τ hτ => AllUpd.nil.mp hτ ▸ h, fun h => h ρ (AllUpd.nil.mpr rfl)⟩
  | cons x xs ih =>
    simp only [bindAll, ih, AllUpd.cons]
    exact ⟨fun h τ ⟨d, hd, hτ⟩ => h d hd τ hτ, fun h d hd τ hτ => h τ ⟨d, hd, hτ⟩⟩

theorem bindEx_iff {L : List Var} {P : Asg → Prop} {ρ : Asg} :
    bindEx L P ρ ↔ ∃ τ, AllUpd L ρ τ ∧ P τ := by
  induction L generalizing ρ with
  | nil => exact ⟨fun h => ⟨ρ, AllUpd.nil.mpr rfl, h⟩, fun ⟨τ, hτ, h⟩ => AllUpd.nil.mp hτ ▸ h⟩
  | cons x xs ih =>
    exact ⟨fun ⟨d, hd, h⟩ => let ⟨τ, hτ, hp⟩ := ih.mp h; ⟨τ, AllUpd.cons.mpr ⟨d, hd, hτ⟩, hp⟩,
      fun ⟨τ, hτ, hp⟩ => let ⟨d, hd, hτ'⟩ := AllUpd.cons.mp hτ; ⟨d, hd, ih.mpr ⟨τ, hτ', hp⟩⟩⟩

theorem bindAll_int (n : String) (vs : List Var) (P : Asg → Prop) (ρ : Asg) :
    bindAll (⟨n, .integer⟩ :: vs) P ρ ↔ ∀ a : Int, bindAll vs P (ρ.set ⟨n, .integer⟩ (.num a)) :=
  ⟨fun h a => h (.num a) trivial, fun h d hd => by
    obtain ⟨a, rfl⟩ := Dom.inSort_integer.mp hd
    exact h a⟩

theorem bindEx_int (n : String) (vs : List Var) (P : Asg → Prop) (ρ : Asg) :
    bindEx (⟨n, .integer⟩ :: vs) P ρ ↔ ∃ a : Int, bindEx vs P (ρ.set ⟨n, .integer⟩ (.num a)) :=
  ⟨fun ⟨d, hd, h⟩ => by
    obtain ⟨a, rfl⟩ := Dom.inSort_integer.mp hd
    exact ⟨a, h⟩, fun ⟨a, h⟩ => ⟨.num a, trivial, h⟩⟩

theorem bindAll_const_imp {L : List Var} {P : Asg → Prop} {p : Prop} {ρ : Asg} :
    bindAll L (fun τ => p → P τ) ρ ↔ (p → bindAll L P ρ) := by
  simp only [bindAll_iff]
  exact ⟨fun h hp τ hτ => h τ hτ hp, fun h τ hτ hp => h hp τ hτ⟩

theorem bindAll_const {L : List Var} {p : Prop} {ρ : Asg} : bindAll L (fun _ => p) ρ ↔ p := by
  obtain ⟨τ, hτ⟩ := exists_allUpd L ρ
  exact bindAll_iff.trans ⟨fun h => h τ hτ, fun h _ _ => h⟩

theorem bindAll_closed {L : List Var} {P : Asg → Prop}
    (hP : ∀ τ τ', (∀ v ∈ L, τ v = τ' v) → (P τ ↔ P τ')) (ρ : Asg) :
    bindAll L P ρ ↔ ∀ τ, (∀ v ∈ L, (τ v).inSort v.sort) → P τ := by
  refine bindAll_iff.trans ⟨fun h τ hτ => ?_, fun h τ hτ => h τ hτ.2⟩
  exact (hP _ τ fun v hv => if_pos hv).mp (h (fun v => if v ∈ L then τ v else ρ v)
    ⟨fun v hv => if_neg hv, fun v hv => by simp only [if_pos hv]; exact hτ v hv⟩)

/-- so that facts about binder lists are stated once for both quantifiers -/
def bindQ : Quant → List Var → (Asg → Prop) → Asg → Prop
  | .all => bindAll
  | .ex => bindEx

theorem ht_quant (M : HTI) (q : Quant) (vs : List Var) (f : Formula) (w : World) (ρ : Asg) :
    ht M (.quant q vs f) w ρ ↔ bindQ q vs (ht M f w) ρ := by
  cases q <;> exact Iff.rfl

theorem sat_quant (I : Interp) (q : Quant) (vs : List Var) (f : Formula) (ρ : Asg) :
    sat I (.quant q vs f) ρ ↔ bindQ q vs (sat I f) ρ := by
  cases q <;> exact Iff.rfl

theorem bindQ_congr {q : Quant} {vs : List Var} {P Q : Asg → Prop} (h : ∀ ρ, P ρ ↔ Q ρ) (ρ : Asg) :
    bindQ q vs P ρ ↔ bindQ q vs Q ρ := by
  cases q
  · exact bindAll_congr h ρ
  · exact bindEx_congr h ρ

/-- Permuting binders, dropping unused ones and agreement below are instances; so is renaming a
    binder (`alpha_step`). -/
theorem bindQ_transfer {q : Quant} {L L' : List Var} {P P' : Asg → Prop} {ρ ρ' : Asg}
    (h₁ : ∀ τ, AllUpd L ρ τ → ∃ τ', AllUpd L' ρ' τ' ∧ (P τ ↔ P' τ'))
    (h₂ : ∀ τ', AllUpd L' ρ' τ' → ∃ τ, AllUpd L ρ τ ∧ (P τ ↔ P' τ')) :
    bindQ q L P ρ ↔ bindQ q L' P' ρ' := by
  cases q
  · simp only [bindQ, bindAll_iff]
    exact ⟨fun H τ' hτ' => let ⟨τ, hτ, e⟩ := h₂ τ' hτ'; e.mp (H τ hτ),
      fun H τ hτ => let ⟨τ', hτ', e⟩ := h₁ τ hτ; e.mpr (H τ' hτ')⟩
  · simp only [bindQ, bindEx_iff]
    exact ⟨fun ⟨τ, hτ, hP⟩ => let ⟨τ', hτ', e⟩ := h₁ τ hτ; ⟨τ', hτ', e.mp hP⟩,
      fun ⟨τ', hτ', hP⟩ => let ⟨τ, hτ, e⟩ := h₂ τ' hτ'; ⟨τ, hτ, e.mpr hP⟩⟩

theorem bindQ_congr_upd {q : Quant} {L L' : List Var} {P P' : Asg → Prop} {ρ : Asg}
    (hL : ∀ v, v ∈ L ↔ v ∈ L') (hP : ∀ τ, AllUpd L ρ τ → (P τ ↔ P' τ)) :
    bindQ q L P ρ ↔ bindQ q L' P' ρ :=
  have e : ∀ τ, AllUpd L ρ τ ↔ AllUpd L' ρ τ := fun τ => by simp only [AllUpd, hL]
  bindQ_transfer (fun τ hτ => ⟨τ, (e τ).mp hτ, hP τ hτ⟩) (fun τ hτ => ⟨τ, (e τ).mpr hτ, hP τ ((e τ).mpr hτ)⟩)

theorem bindQ_perm {q : Quant} {L L' : List Var} (h : ∀ v, v ∈ L ↔ v ∈ L') (P : Asg → Prop) (ρ : Asg) :
    bindQ q L P ρ ↔ bindQ q L' P ρ :=
  bindQ_congr_upd h fun _ _ => Iff.rfl

theorem bindAll_perm {L L' : List Var} (h : ∀ v, v ∈ L ↔ v ∈ L') (P : Asg → Prop) (ρ : Asg) :
    bindAll L P ρ ↔ bindAll L' P ρ :=
  bindQ_perm (q := .all) h P ρ

theorem bindQ_append (q : Quant) (L L' : List Var) (P : Asg → Prop) (ρ : Asg) :
    bindQ q (L ++ L') P ρ ↔ bindQ q L (bindQ q L' P) ρ := by
  induction L generalizing ρ with
  | nil => cases q <;> exact Iff.rfl
  | cons x xs ih =>
    cases q
    · exact forall_congr' fun d => imp_congr_right fun _ => ih _
    · exact exists_congr fun d => and_congr_right fun _ => ih _

theorem bindQ_agree {q : Quant} {L : List Var} {P : Asg → Prop} {S : Var → Prop}
    (hP : ∀ ρ ρ', (∀ v, S v → ρ v = ρ' v) → (P ρ ↔ P ρ')) {ρ ρ' : Asg}
    (h : ∀ v, S v → v ∉ L → ρ v = ρ' v) : bindQ q L P ρ ↔ bindQ q L P ρ' := by
  -- a re-assignment of `ρ` is carried over to `ρ'` by keeping its values on `L`
  have key : ∀ {ρ ρ' : Asg}, (∀ v, S v → v ∉ L → ρ v = ρ' v) → ∀ τ, AllUpd L ρ τ →
      ∃ τ', AllUpd L ρ' τ' ∧ (P τ ↔ P τ') := fun {ρ ρ'} h τ hτ =>
    ⟨fun v => if v ∈ L then τ v else ρ' v,
      ⟨fun v hv => if_neg hv, fun v hv => by simp only [if_pos hv]; exact hτ.2 v hv⟩,
      hP _ _ fun v hv => by
        by_cases hL : v ∈ L
        · simp only [if_pos hL]
        · simp only [if_neg hL, hτ.1 v hL]; exact h v hv hL⟩
  exact bindQ_transfer (key h) fun τ' hτ' =>
    let ⟨τ, hτ, e⟩ := key (fun v hv hL => (h v hv hL).symm) τ' hτ'; ⟨τ, hτ, e.symm⟩

theorem bindQ_filter {q : Quant} {P : Asg → Prop} {S : Var → Prop} [DecidablePred S]
    (hP : ∀ ρ ρ', (∀ v, S v → ρ v = ρ' v) → (P ρ ↔ P ρ')) (vs : List Var) (ρ : Asg) :
    bindQ q (vs.filter (fun v => decide (S v))) P ρ ↔ bindQ q vs P ρ := by
  have hm : ∀ v, v ∈ vs.filter (fun v => decide (S v)) ↔ v ∈ vs ∧ S v := fun v => by
    rw [List.mem_filter, decide_eq_true_iff]
  refine bindQ_transfer (fun τ hτ => ?_) (fun τ hτ => ?_)
  · -- the dropped binders get default values
    refine ⟨fun v => if v ∈ vs ∧ ¬ S v then v.sort.default else τ v, ⟨fun v hv => ?_, fun v hv => ?_⟩,
      hP _ _ fun v hv => ?_⟩
    · have : ¬ (v ∈ vs ∧ ¬ S v) := fun h => hv h.1
      simp only [if_neg this]; exact hτ.1 v fun h => hv ((hm v).mp h).1
    · by_cases hS : S v
      · have : ¬ (v ∈ vs ∧ ¬ S v) := fun h => h.2 hS
        simp only [if_neg this]; exact hτ.2 v ((hm v).mpr ⟨hv, hS⟩)
      · simp only [if_pos (And.intro hv hS)]; exact Srt.default_inSort _
    · have : ¬ (v ∈ vs ∧ ¬ S v) := fun h => h.2 hv
      simp only [if_neg this]
  · -- the dropped binders get their old values back
    refine ⟨fun v => if v ∈ vs ∧ ¬ S v then ρ v else τ v, ⟨fun v hv => ?_, fun v hv => ?_⟩,
      hP _ _ fun v hv => ?_⟩
    · by_cases hvs : v ∈ vs
      · exact if_pos ⟨hvs, fun hS => hv ((hm v).mpr ⟨hvs, hS⟩)⟩
      · have : ¬ (v ∈ vs ∧ ¬ S v) := fun h => hvs h.1
        simp only [if_neg this]; exact hτ.1 v hvs
    · have hv' := (hm v).mp hv
      have : ¬ (v ∈ vs ∧ ¬ S v) := fun h => h.2 hv'.2
      simp only [if_neg this]; exact hτ.2 v hv'.1
    · have : ¬ (v ∈ vs ∧ ¬ S v) := fun h => h.2 hv
      simp only [if_neg this]

theorem ht_agree (M : HTI) (F : Formula) : ∀ (w : World) (ρ ρ' : Asg),
    (∀ v, F.FV v → ρ v = ρ' v) → (ht M F w ρ ↔ ht M F w ρ') := by
  induction F with
  | atomic a => exact fun w ρ ρ' h => a.sat_congr _ _ h
  | not f ih => exact fun w ρ ρ' h => not_congr (ih _ ρ ρ' h)
  | bin c l r ihl ihr =>
    intro w ρ ρ' h
    have hl : ∀ w, ht M l w ρ ↔ ht M l w ρ' := fun w => ihl w ρ ρ' (fun v hv => h v (Or.inl hv))
    have hr : ∀ w, ht M r w ρ ↔ ht M r w ρ' := fun w => ihr w ρ ρ' (fun v hv => h v (Or.inr hv))
    cases c <;> simp only [ht, hl, hr]
  | quant q vs f ih =>
    intro w ρ ρ' h
    rw [ht_quant, ht_quant]
    exact bindQ_agree (S := f.FV) (ih w) (fun v hv hn => h v ⟨hv, hn⟩)

theorem sat_agree (I : Interp) (F : Formula) (ρ ρ' : Asg) (h : ∀ v, F.FV v → ρ v = ρ' v) :
    sat I F ρ ↔ sat I F ρ' := by
  have := ht_agree ⟨I.pred, I.pred, I.fc⟩ F .there ρ ρ' h
  rwa [ht_there_eq_sat, ht_there_eq_sat] at this

theorem ht_quantify (M : HTI) (f : Formula) (q : Quant) (vs : List Var) (w : World) (ρ : Asg) :
    ht M (f.quantify q vs) w ρ ↔ ht M (.quant q vs f) w ρ := by
  cases vs with
  | nil => cases q <;> exact Iff.rfl
  | cons v vs => exact Iff.rfl

theorem sat_quantify (I : Interp) (f : Formula) (q : Quant) (vs : List Var) (ρ : Asg) :
    sat I (f.quantify q vs) ρ ↔ sat I (.quant q vs f) ρ := by
  cases vs with
  | nil => cases q <;> exact Iff.rfl
  | cons v vs => exact Iff.rfl

theorem quantify_FV (X : Formula) (q : Quant) (vs : List Var) (u : Var) :
    (X.quantify q vs).FV u ↔ X.FV u ∧ u ∉ vs := by
  cases vs with
  | nil => exact ⟨fun h => ⟨h, List.not_mem_nil⟩, fun h => h.1⟩
  | cons v vs => exact Iff.rfl

/-- the value of the term `z.toTerm` -/
def zval (ρ : Asg) (z : Var) : Dom :=
  match z.sort with
  | .general => ρ z
  | .integer => .num (ρ z).toInt
  | .symbol => .sym (ρ z).toStr

theorem toTerm_eval (fc : FcI) (σ : Asg) (v : Var) : v.toTerm.eval fc σ = zval σ v := by
  obtain ⟨n, s⟩ := v
  cases s <;> rfl

theorem zval_of_inSort {σ : Asg} {v : Var} (h : (σ v).inSort v.sort) : zval σ v = σ v := by
  obtain ⟨n, s⟩ := v
  cases s
  · rfl
  · obtain ⟨z, hz⟩ := Dom.inSort_integer.mp h
    exact (congrArg (fun d => Dom.num d.toInt) hz).trans hz.symm
  · obtain ⟨z, hz⟩ := Dom.inSort_symbol.mp h
    exact (congrArg (fun d => Dom.sym d.toStr) hz).trans hz.symm

end Anthem
