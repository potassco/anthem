/-
  C19 core: both decompositions of a problem are refuted by exactly the interpretations that make
  all axioms true and some conjecture false; breaking equivalences preserves the joint meaning.
-/
import AnthemModel.Model.Problem
import AnthemModel.Proofs.Agree
namespace Anthem

def Refutes (J : Interp) (ρ : Asg) (P : Problem) : Prop :=
  (∀ a ∈ P.formulas, a.role = .axiom → sat J a.formula ρ) ∧
  ∃ c ∈ P.formulas, c.role = .conjecture ∧ ¬ sat J c.formula ρ

theorem mem_indexFrom {α} {l : List α} {k : Nat} {x : α} :
    x ∈ l ↔ ∃ i, (i, x) ∈ indexFrom k l := by
  induction l generalizing k with
  | nil => simp [indexFrom]
  | cons y ys ih =>
    simp only [indexFrom, List.mem_cons, Prod.mk.injEq]
    constructor
    · rintro (rfl | h)
      · exact ⟨k, Or.inl ⟨rfl, rfl⟩⟩
      · obtain ⟨i, hi⟩ := (ih (k := k + 1)).mp h; exact ⟨i, Or.inr hi⟩
    · rintro ⟨i, ⟨_, rfl⟩ | h⟩
      · exact Or.inl rfl
      · exact Or.inr ((ih (k := k + 1)).mpr ⟨i, h⟩)

theorem mem_axioms {p : Problem} {a : AnnF} : a ∈ p.axioms ↔ a ∈ p.formulas ∧ a.role = .axiom := by
  simp [Problem.axioms]

theorem mem_conjectures {p : Problem} {a : AnnF} :
    a ∈ p.conjectures ↔ a ∈ p.formulas ∧ a.role = .conjecture := by
  simp [Problem.conjectures]

theorem refutes_ax_conj (J : Interp) (ρ : Asg) (name : String) (ax : List AnnF) (c : AnnF)
    (hax : ∀ a ∈ ax, a.role = .axiom) (hc : c.role = .conjecture) :
    Refutes J ρ ⟨name, ax ++ [c]⟩ ↔ (∀ a ∈ ax, sat J a.formula ρ) ∧ ¬ sat J c.formula ρ := by
  simp only [Refutes, List.mem_append, List.mem_singleton]
  constructor
  · rintro ⟨h1, d, hd, hdr, hds⟩
    refine ⟨fun a ha => h1 a (Or.inl ha) (hax a ha), ?_⟩
    rcases hd with hd | rfl
    · rw [hax d hd] at hdr; cases hdr
    · exact hds
  · rintro ⟨h1, h2⟩
    refine ⟨?_, c, Or.inr rfl, hc, h2⟩
    rintro a (ha | rfl) hr
    · exact h1 a ha
    · rw [hc] at hr; cases hr

theorem independent_refutes (J : Interp) (ρ : Asg) (p : Problem) :
    (∃ P ∈ p.decomposeIndependent, Refutes J ρ P) ↔
      (∀ a ∈ p.axioms, sat J a.formula ρ) ∧ ∃ c ∈ p.conjectures, ¬ sat J c.formula ρ := by
  simp only [Problem.decomposeIndependent, List.mem_map, Prod.exists]
  constructor
  · rintro ⟨P, ⟨i, c, hic, rfl⟩, hr⟩
    have hc : c ∈ p.conjectures := mem_indexFrom.mpr ⟨i, hic⟩
    rw [refutes_ax_conj J ρ _ _ c (fun a ha => (mem_axioms.mp ha).2) (mem_conjectures.mp hc).2] at hr
    exact ⟨hr.1, c, hc, hr.2⟩
  · rintro ⟨h1, c, hc, h2⟩
    obtain ⟨i, hi⟩ := (mem_indexFrom (k := 0)).mp hc
    refine ⟨_, ⟨i, c, hi, rfl⟩, ?_⟩
    rw [refutes_ax_conj J ρ _ _ c (fun a ha => (mem_axioms.mp ha).2) (mem_conjectures.mp hc).2]
    exact ⟨h1, h2⟩

theorem setLastAxiom_formulas (l : List AnnF) :
    (setLastAxiom l).map (·.formula) = l.map (·.formula) := by
  induction l with
  | nil => rfl
  | cons a l ih =>
    cases l with
    | nil => rfl
    | cons b rest => simp only [setLastAxiom, List.map_cons] at ih ⊢; rw [ih]

def InitAxioms : List AnnF → Prop
  | [] => True
  | [_] => True
  | a :: b :: rest => a.role = .axiom ∧ InitAxioms (b :: rest)

theorem setLastAxiom_roles (l : List AnnF) (h : InitAxioms l) :
    ∀ a ∈ setLastAxiom l, a.role = .axiom := by
  induction l with
  | nil => simp [setLastAxiom]
  | cons a l ih =>
    cases l with
    | nil => simp [setLastAxiom]
    | cons b rest =>
      simp only [setLastAxiom, List.mem_cons]
      rintro x (rfl | hx)
      · exact h.1
      · exact ih h.2 x (by simpa [setLastAxiom] using hx)

theorem initAxioms_append (l : List AnnF) (c : AnnF) (h : ∀ a ∈ l, a.role = .axiom) :
    InitAxioms (l ++ [c]) := by
  induction l with
  | nil => trivial
  | cons a l ih =>
    cases l with
    | nil => exact ⟨h a (by simp), trivial⟩
    | cons b rest =>
      exact ⟨h a (by simp), ih (fun x hx => h x (List.mem_cons_of_mem _ hx))⟩

theorem forall_sat_setLast (J : Interp) (ρ : Asg) (l : List AnnF) :
    (∀ a ∈ setLastAxiom l, sat J a.formula ρ) ↔ ∀ a ∈ l, sat J a.formula ρ := by
  have h := setLastAxiom_formulas l
  have key : ∀ l' : List AnnF, (∀ a ∈ l', sat J a.formula ρ) ↔ ∀ f ∈ l'.map (·.formula), sat J f ρ := by
    intro l'; simp
  rw [key, key, h]

theorem seqLoop_refutes (J : Interp) (ρ : Asg) (name : String) :
    ∀ (cs : List AnnF) (i : Nat) (acc : List AnnF), InitAxioms acc →
      (∀ c ∈ cs, c.role = .conjecture) →
      ((∃ P ∈ seqLoop name i acc cs, Refutes J ρ P) ↔
        (∀ a ∈ acc, sat J a.formula ρ) ∧ ∃ c ∈ cs, ¬ sat J c.formula ρ) := by
  intro cs
  induction cs with
  | nil => intro i acc _ _; simp [seqLoop]
  | cons c cs ih =>
    intro i acc hacc hcs
    have hc : c.role = .conjecture := hcs c List.mem_cons_self
    have hroles := setLastAxiom_roles acc hacc
    simp only [seqLoop, List.mem_cons, exists_eq_or_imp]
    rw [refutes_ax_conj J ρ _ _ c hroles hc, forall_sat_setLast,
      ih (i + 1) _ (initAxioms_append _ c hroles) (fun x hx => hcs x (List.mem_cons_of_mem _ hx))]
    simp only [List.mem_append, List.mem_singleton]
    constructor
    · rintro (⟨h1, h2⟩ | ⟨h1, d, hd, h2⟩)
      · exact ⟨h1, Or.inl h2⟩
      · refine ⟨?_, Or.inr ⟨d, hd, h2⟩⟩
        exact (forall_sat_setLast J ρ acc).mp (fun a ha => h1 a (Or.inl ha))
    · rintro ⟨h1, h2 | ⟨d, hd, h2⟩⟩
      · exact Or.inl ⟨h1, h2⟩
      · by_cases hsc : sat J c.formula ρ
        · refine Or.inr ⟨?_, d, hd, h2⟩
          rintro a (ha | rfl)
          · exact (forall_sat_setLast J ρ acc).mpr h1 a ha
          · exact hsc
        · exact Or.inl ⟨h1, hsc⟩

theorem initAxioms_of_all (l : List AnnF) (h : ∀ a ∈ l, a.role = .axiom) : InitAxioms l := by
  induction l with
  | nil => trivial
  | cons a l ih =>
    cases l with
    | nil => trivial
    | cons b rest => exact ⟨h a (by simp), ih (fun x hx => h x (List.mem_cons_of_mem _ hx))⟩

theorem sequential_refutes (J : Interp) (ρ : Asg) (p : Problem) :
    (∃ P ∈ p.decomposeSequential, Refutes J ρ P) ↔
      (∀ a ∈ p.axioms, sat J a.formula ρ) ∧ ∃ c ∈ p.conjectures, ¬ sat J c.formula ρ :=
  seqLoop_refutes J ρ p.name p.conjectures 0 p.axioms
    (initAxioms_of_all _ (fun _ ha => (mem_axioms.mp ha).2))
    (fun _ hc => (mem_conjectures.mp hc).2)

theorem bindAll_forall_mem {α} (vs : List Var) (l : List α) (P : α → Asg → Prop) (ρ : Asg) :
    bindAll vs (fun ρ' => ∀ x ∈ l, P x ρ') ρ ↔ ∀ x ∈ l, bindAll vs (P x) ρ := by
  simp only [bindAll_iff]
  exact ⟨fun h x hx τ hτ => h τ hτ x hx, fun h τ hτ x hx => h x hx τ hτ⟩

theorem break_equiv_ht (M : HTI) : ∀ (F : Formula) (w : World) (ρ : Asg),
    (∀ G ∈ breakEquivalencesFormula F, ht M G w ρ) ↔ ht M F w ρ := by
  intro F
  induction F with
  | atomic a => exact fun w ρ => List.forall_mem_singleton
  | not f _ => exact fun w ρ => List.forall_mem_singleton
  | bin c l r _ _ =>
    intro w ρ
    cases c
    case iff => exact List.forall_mem_cons.trans (and_congr_right' List.forall_mem_singleton)
    all_goals exact List.forall_mem_singleton
  | quant q vs f ih =>
    intro w ρ
    cases q
    · show (∀ G ∈ (breakEquivalencesFormula f).map _, _) ↔ bindAll vs (ht M f w) ρ
      simp only [List.forall_mem_map, ht_quantify]
      exact (bindAll_forall_mem vs _ (fun G ρ' => ht M G w ρ') ρ).symm.trans (bindAll_congr (ih w) ρ)
    · exact List.forall_mem_singleton

/-- the classical meaning is the HT meaning at `there` with `H = T` -/
theorem break_equiv (I : Interp) : ∀ (F : Formula) (ρ : Asg),
    (∀ G ∈ breakEquivalencesFormula F, sat I G ρ) ↔ sat I F ρ := by
  intro F ρ
  have := break_equiv_ht ⟨I.pred, I.pred, I.fc⟩ F .there ρ
  simp only [ht_there_eq_sat] at this
  exact this

end Anthem
