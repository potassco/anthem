/-
  The freshness premise of `val_correct` holds for every term as soon as the output variable is
  general-sorted, or integer-sorted with a name the translator itself chose (`I…` / `J…`): the names
  chosen with variants "I", "J", "K", "Q", "R" begin with their variant (so names of different
  variants differ) and are not among the taken names (`chooseFresh_one`).
-/
import AnthemModel.Proofs.ValCorrect
import AnthemModel.Proofs.ChooseFresh
namespace Anthem
open Asp

def headChar (s : String) : Option Char := s.toList.head?

theorem headChar_append_of_nonempty (c : Char) (s t : String) (h : headChar s = some c) :
    headChar (s ++ t) = some c := by
  unfold headChar at *
  rw [String.toList_append]
  cases hs : s.toList with
  | nil => rw [hs] at h; cases h
  | cons a as => rw [hs] at h; exact h

theorem searchName_head (variant : String) (taken fresh : List String) (c : Char)
    (h : headChar variant = some c) :
    ∀ (fuel m : Nat), headChar (searchName variant taken fresh fuel m) = some c := by
  intro fuel
  induction fuel with
  | zero => exact fun m => headChar_append_of_nonempty c _ _ h
  | succ fuel ih =>
    intro m
    simp only [searchName]
    split
    · exact ih (m + 1)
    · exact headChar_append_of_nonempty c _ _ h

theorem chooseFresh_one_head (taken : List String) (variant : String) (c : Char)
    (h : headChar variant = some c) :
    headChar ((chooseFresh taken variant 1).headD variant) = some c := by
  unfold chooseFresh
  simp only [Nat.lt_irrefl, if_false]
  split
  · simp only [List.range'_one, chooseFreshLoop, List.nil_append, List.headD_cons]
    exact searchName_head variant taken [] c h _ 1
  · exact h

theorem ne_of_headChar {s t : String} {c d : Char} (hs : headChar s = some c) (ht : headChar t = some d)
    (hcd : c ≠ d) : s ≠ t := by
  intro e; subst e; rw [hs] at ht; injection ht with ht; exact hcd ht

/-- an output variable the translator may pass to `val` -/
def GoodZ (z : Var) : Prop :=
  z.sort = .integer → headChar z.name = some 'I' ∨ headChar z.name = some 'J'

theorem goodZ_general (n : String) : GoodZ ⟨n, .general⟩ := fun h => by cases h

theorem chosen_ne {taken taken' : List String} {v v' : String} {c c' : Char}
    (h : headChar v = some c) (h' : headChar v' = some c') (hcc : c ≠ c') :
    (chooseFresh taken v 1).headD v ≠ (chooseFresh taken' v' 1).headD v' :=
  ne_of_headChar (chooseFresh_one_head taken v c h) (chooseFresh_one_head taken' v' c' h') hcc

theorem ne_chosen {taken : List String} {n : String} (hn : n ∈ taken) (v : String) :
    n ≠ (chooseFresh taken v 1).headD v :=
  fun e => chooseFresh_one taken v (e ▸ hn)

theorem valFreshOK_of_goodZ : ∀ (t : Term) (z : Var), GoodZ z → ValFreshOK t z := by
  have hI : headChar "I" = some 'I' := rfl
  have hJ : headChar "J" = some 'J' := rfl
  have hK : headChar "K" = some 'K' := rfl
  have hQ : headChar "Q" = some 'Q' := rfl
  have hR : headChar "R" = some 'R' := rfl
  intro t
  induction t with
  | pre _ => intro _ _; trivial
  | var _ => intro _ _; trivial
  | neg a ih =>
    intro z hz
    have hm : z.name ∈ a.vars ++ [z.name] := List.mem_append_right _ List.mem_cons_self
    simp only [ValFreshOK, valNames]
    exact ⟨chosen_ne hI hJ (by decide), fun _ => ⟨ne_chosen hm "I", ne_chosen hm "J"⟩,
      ih _ fun _ => Or.inr (chooseFresh_one_head _ "J" 'J' hJ)⟩
  | bin op l r ihl ihr =>
    intro z hz
    have hm : z.name ∈ ext l.vars r.vars ++ [z.name] := List.mem_append_right _ List.mem_cons_self
    simp only [ValFreshOK, valNames, qrNames]
    refine ⟨chosen_ne hI hJ (by decide), fun _ => ⟨ne_chosen hm "I", ne_chosen hm "J"⟩,
      fun _ => ⟨chosen_ne hK hI (by decide), chosen_ne hK hJ (by decide), fun _ => ne_chosen hm "K"⟩,
      fun _ => ⟨chosen_ne hQ hI (by decide), chosen_ne hQ hJ (by decide), chosen_ne hR hI (by decide),
        chosen_ne hR hJ (by decide), chosen_ne hQ hR (by decide), fun hs => ?_⟩,
      ihl _ fun _ => Or.inl (chooseFresh_one_head _ "I" 'I' hI),
      ihr _ fun _ => Or.inr (chooseFresh_one_head _ "J" 'J' hJ)⟩
    rcases hz hs with h | h
    · exact ⟨ne_of_headChar h (chooseFresh_one_head _ "Q" 'Q' hQ) (by decide),
        ne_of_headChar h (chooseFresh_one_head _ "R" 'R' hR) (by decide)⟩
    · exact ⟨ne_of_headChar h (chooseFresh_one_head _ "Q" 'Q' hQ) (by decide),
        ne_of_headChar h (chooseFresh_one_head _ "R" 'R' hR) (by decide)⟩

theorem val_correct_general (M : HTI) (w : World) (t : Term) (zn : String) (ρ : Asg) :
    ht M (val t ⟨zn, .general⟩) w ρ ↔ vals (σOf ρ) t (ρ ⟨zn, .general⟩) :=
  val_correct M w t ⟨zn, .general⟩ (valFreshOK_of_goodZ t _ (goodZ_general zn)) ρ

end Anthem
