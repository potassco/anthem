/-
  C02, the generic core: the reading of the problems assembled from an arbitrary specification side
  (roles assumption/spec, any direction), the translated program side and the user-guide assumptions.
-/
import AnthemModel.Proofs.ExternalSemSpec
namespace Anthem
open Asp

def assembledGen (t : ExternalTask) (left ugAss : List SAnn) (ΓR : Theory) : Assembled :=
  let right := rightSide t ΓR
  { stable := ugAss.map (·.toProblem .axiom) ++ (left.filter lStable).map (·.toProblem .axiom) ++
      (right.filter isAss).map (·.toProblem .axiom),
    fwdPremises := (left.filter lFwdPrem).map (·.toProblem .axiom),
    fwdConclusions := (right.filter isSpec).flatMap (conjOf t.breakEq),
    bwdPremises := (right.filter isSpec).map (·.toProblem .axiom),
    bwdConclusions := (left.filter lBwdConc).flatMap (conjOf t.breakEq) }

theorem assemble_gen (t : ExternalTask) (left ugAss : List SAnn) (ΓR : Theory) (hl : RolesAS left) :
    assemble left (rightSide t ΓR) ugAss t.breakEq = .ok (assembledGen t left ugAss ΓR) :=
  assemble_ok_spec left (rightSide t ΓR) ugAss t.breakEq hl (rightSide_univ t ΓR)

/-- the side condition of the two-sided statements; the one-sided ones (Proofs/ExternalValid) read the parts
    through `assembled_semref` and do without it -/
def NoSymbolConflictGen (a : Assembled) : Prop :=
  (mkProblem0 "forward_problem" [a.stable, a.fwdPremises, [], a.fwdConclusions]).renameConflictingSymbols =
    mkProblem0 "forward_problem" [a.stable, a.fwdPremises, [], a.fwdConclusions] ∧
  (mkProblem0 "backward_problem" [a.stable, a.bwdPremises, [], a.bwdConclusions]).renameConflictingSymbols =
    mkProblem0 "backward_problem" [a.stable, a.bwdPremises, [], a.bwdConclusions]

theorem forall_toProblem_role (J : Interp) (ρ : Asg) (l : List SAnn) (r r' : PRole) :
    (∀ x ∈ l.map (·.toProblem r), x.role = r' → sat J x.formula ρ) ↔ (r = r' → ∀ a ∈ l, sat J a.formula ρ) := by
  simp only [List.forall_mem_map, SAnn.toProblem]
  exact ⟨fun h hr a ha => h a ha hr, fun h a ha hr => h hr a ha⟩

theorem forall_conjOf_role (J : Interp) (ρ : Asg) (brk : Bool) (l : List SAnn) (r' : PRole) :
    (∀ x ∈ l.flatMap (conjOf brk), x.role = r' → sat J x.formula ρ) ↔
      (r' = .conjecture → ∀ a ∈ l, sat J a.formula ρ) := by
  simp only [List.mem_flatMap, forall_exists_index, and_imp]
  constructor
  · intro h hr a ha
    exact (conjOf_sem J ρ brk a).2.mp fun c hc => h c a ha hc (hr ▸ (conjOf_sem J ρ brk a).1 c hc)
  · intro h c a ha hc hr
    exact (conjOf_sem J ρ brk a).2.mpr (h (hr ▸ ((conjOf_sem J ρ brk a).1 c hc).symm).symm a ha) c hc

theorem family_semref (J : Interp) (ρ : Asg) (brk : Bool) (st prem concl : List SAnn) :
    SemRef J ρ [st.map (·.toProblem .axiom), prem.map (·.toProblem .axiom), [], concl.flatMap (conjOf brk)] ↔
      (∀ a ∈ st, sat J a.formula ρ) ∧ (∀ a ∈ prem, sat J a.formula ρ) ∧ ¬ ∀ a ∈ concl, sat J a.formula ρ := by
  -- the two role lemmas turn each part into `role test → all true`; `reduceCtorEq` decides the tests
  -- (`.axiom = .axiom`, `.axiom ≠ .conjecture`), so the first two parts are premises and the last the conclusions
  simp only [SemRef, List.forall_mem_cons, forall_toProblem_role, forall_conjOf_role, List.not_mem_nil, false_imp_iff,
    implies_true, and_true, true_and, reduceCtorEq, forall_const, and_assoc]

theorem exists_mem_assembledProblems (a : Assembled) (dec : Decomposition) (dir : Direction) (R : Problem → Prop) :
    (∃ P ∈ assembledProblems a {} dec dir, R P) ↔
      ((dir = .universal ∨ dir = .forward) ∧
        ∃ P ∈ (mkProblem "forward_problem" [a.stable, a.fwdPremises, [], a.fwdConclusions]).decompose dec, R P) ∨
      ((dir = .universal ∨ dir = .backward) ∧
        ∃ P ∈ (mkProblem "backward_problem" [a.stable, a.bwdPremises, [], a.bwdConclusions]).decompose dec, R P) := by
  have e : ∀ nm ax, outlineProblems nm ax [] = [] := fun _ _ => rfl
  simp only [assembledProblems, e, List.flatMap_nil, List.nil_append, List.mem_append, or_and_right, exists_or,
    List.mem_ite_nil_right, and_assoc, exists_and_left]

/-- at the level of the parts: no emitted problem, hence no renaming involved. `SR` is whatever
    "all formulas of the program side are true" means for the caller (`hStR`). -/
theorem assembled_semref (t : ExternalTask) (left ugAss : List SAnn) (ΓR : Theory)
    (J : Interp) (ρ : Asg) (SR : Prop)
    (hStR : (∀ a ∈ rightSide t ΓR, sat J a.formula ρ) ↔ SR) :
    ((((t.direction = .universal ∨ t.direction = .forward) ∧
        SemRef J ρ [(assembledGen t left ugAss ΓR).stable, (assembledGen t left ugAss ΓR).fwdPremises, [],
          (assembledGen t left ugAss ΓR).fwdConclusions]) ∨
      ((t.direction = .universal ∨ t.direction = .backward) ∧
        SemRef J ρ [(assembledGen t left ugAss ΓR).stable, (assembledGen t left ugAss ΓR).bwdPremises, [],
          (assembledGen t left ugAss ΓR).bwdConclusions])) ↔
      (∀ a ∈ ugAss, sat J a.formula ρ) ∧
      (∀ a ∈ left, lStable a = true → sat J a.formula ρ) ∧
      (∀ a ∈ rightSide t ΓR, a.role = .assumption → sat J a.formula ρ) ∧
      (((t.direction = .universal ∨ t.direction = .forward) ∧
          (∀ a ∈ left, lFwdPrem a = true → sat J a.formula ρ) ∧ ¬ SR) ∨
       ((t.direction = .universal ∨ t.direction = .backward) ∧ SR ∧
          ∃ a ∈ left, lBwdConc a = true ∧ ¬ sat J a.formula ρ))) := by
  simp only [assembledGen, ← List.map_append]
  rw [family_semref, family_semref, ← hStR, side_allTrue J ρ _ (rightSide_univ t ΓR)]
  simp only [List.forall_mem_append, List.mem_filter, and_imp, isAss, isSpec, decide_eq_true_eq]
  constructor
  · rintro (⟨hd, ⟨⟨hu, hla⟩, hra⟩, hls, hn⟩ | ⟨hd, ⟨⟨hu, hla⟩, hra⟩, hrs, hn⟩)
    · exact ⟨hu, hla, hra, Or.inl ⟨hd, hls, fun hall => hn hall.2⟩⟩
    · refine ⟨hu, hla, hra, Or.inr ⟨hd, ⟨hra, hrs⟩, ?_⟩⟩
      simpa only [Classical.not_forall, exists_prop] using hn
  · rintro ⟨hu, hla, hra, ⟨hd, hls, hn⟩ | ⟨hd, ⟨_, hrs⟩, a, ha, hp, hs⟩⟩
    · exact Or.inl ⟨hd, ⟨⟨hu, hla⟩, hra⟩, hls, fun hall => hn ⟨hra, hall⟩⟩
    · exact Or.inr ⟨hd, ⟨⟨hu, hla⟩, hra⟩, hrs, fun hall => hs (hall a ha hp)⟩

theorem assembled_refutes (t : ExternalTask) (left ugAss : List SAnn) (ΓR : Theory)
    (hnc : NoSymbolConflictGen (assembledGen t left ugAss ΓR)) (J : Interp) (ρ : Asg) (SR : Prop)
    (hStR : (∀ a ∈ rightSide t ΓR, sat J a.formula ρ) ↔ SR) :
    ((∃ P ∈ assembledProblems (assembledGen t left ugAss ΓR) {} t.decomposition t.direction, Refutes J ρ P) ↔
      (∀ a ∈ ugAss, sat J a.formula ρ) ∧
      (∀ a ∈ left, lStable a = true → sat J a.formula ρ) ∧
      (∀ a ∈ rightSide t ΓR, a.role = .assumption → sat J a.formula ρ) ∧
      (((t.direction = .universal ∨ t.direction = .forward) ∧
          (∀ a ∈ left, lFwdPrem a = true → sat J a.formula ρ) ∧ ¬ SR) ∨
       ((t.direction = .universal ∨ t.direction = .backward) ∧ SR ∧
          ∃ a ∈ left, lBwdConc a = true ∧ ¬ sat J a.formula ρ))) := by
  rw [exists_mem_assembledProblems, mk_refutes J ρ _ _ _ hnc.1, mk_refutes J ρ _ _ _ hnc.2]
  exact assembled_semref t left ugAss ΓR J ρ SR hStR

end Anthem
