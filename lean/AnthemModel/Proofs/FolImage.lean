/-
  The image of the target-language parser: every term and atom the parser returns has names of the
  grammar's lexical shape, and each lexer leaves a strictly shorter input.
-/
import AnthemModel.Proofs.FolPrefixRT
import AnthemModel.Proofs.AspImageWF
namespace Anthem.Fol
open Anthem.Asp (isWs skip skipAux stripPrefix isIdChar SymName NoId Solid StartsSolid takeWhile_all)

/-- names have the grammar's shape, comparisons have a guard, quantifiers a variable -/
def Formula.WF : Formula → Prop
  | .atomic a => AtomicF.WF a
  | .not f => Formula.WF f
  | .quant _ vs f => vs ≠ [] ∧ (∀ v ∈ vs, Var.WF v) ∧ Formula.WF f
  | .bin _ l r => Formula.WF l ∧ Formula.WF r

theorem stopsAt_dropWhile (p : Char → Bool) (l : List Char) : Asp.StopsAt p (l.dropWhile p) := by
  intro c r e
  have := List.head_dropWhile_not p (l := l) (by rw [e]; exact List.cons_ne_nil _ _)
  simpa only [e, List.head_cons] using this

theorem lexSymConst_some {cs l r : List Char} (h : lexSymConst cs = some (l, r)) :
    SymName l ∧ cs = l ++ r ∧ NoId r := by
  unfold lexSymConst at h
  split at h
  · cases h
  · split at h
    · rename_i c r' _
      split at h
      · rename_i hc
        cases h
        exact ⟨Or.inr ⟨c, _, rfl, hc, takeWhile_all _ _⟩,
          by rw [List.cons_append, List.cons_append, List.takeWhile_append_dropWhile], stopsAt_dropWhile _ _⟩
      · cases h
    · rename_i c r' _ _
      split at h
      · rename_i hc
        cases h
        exact ⟨Or.inl ⟨c, _, rfl, hc, takeWhile_all _ _⟩,
          by rw [List.cons_append, List.takeWhile_append_dropWhile], stopsAt_dropWhile _ _⟩
      · cases h
    · cases h

theorem lexSymConst_shape {cs l r : List Char} (h : lexSymConst cs = some (l, r)) : SymName l :=
  (lexSymConst_some h).1

theorem lexUVar_some {cs x r : List Char} (h : lexUVar cs = some (x, r)) : UVName x ∧ r.length < cs.length := by
  unfold lexUVar at h
  split at h
  · rename_i c r'
    split at h
    · rename_i hc
      cases h
      exact ⟨Or.inr ⟨c, _, rfl, hc, takeWhile_all _ _⟩,
        Nat.lt_succ_of_le (Nat.le_succ_of_le (List.dropWhile_suffix _).length_le)⟩
    · cases h
  · rename_i c r' _
    split at h
    · rename_i hc
      cases h
      exact ⟨Or.inl ⟨c, _, rfl, hc, takeWhile_all _ _⟩, Nat.lt_succ_of_le (List.dropWhile_suffix _).length_le⟩
    · cases h
  · cases h

theorem lexFnConst_shape {sl : List Char → Option (List Char)} {cs l r : List Char}
    (h : lexFnConst sl cs = some (l, r)) : SymName l := by
  unfold lexFnConst at h
  split at h
  · rename_i s r' hs
    split at h
    · cases h; exact lexSymConst_shape hs
    · cases h
  · cases h

theorem stripPrefix_length : ∀ (p cs r : List Char), stripPrefix p cs = some r → cs.length = p.length + r.length := by
  intro p
  induction p with
  | nil => intro cs r h; cases h; exact (Nat.zero_add _).symm
  | cons a p ih =>
    intro cs r h
    cases cs with
    | nil => cases h
    | cons c cs =>
      rw [stripPrefix] at h
      split at h
      · rw [List.length_cons, List.length_cons, ih cs r h, Nat.add_right_comm]
      · cases h

theorem lexSortWord_length {first : Char} {more : String} {cs r : List Char}
    (h : lexSortWord first more cs = some r) : r.length < cs.length := by
  unfold lexSortWord at h
  split at h
  · rename_i c r'
    split at h
    · split at h
      · rename_i r'' hs
        cases h
        rw [List.length_cons, stripPrefix_length _ _ _ hs]
        exact Nat.lt_succ_of_le (Nat.le_add_left _ _)
      · cases h; exact Nat.lt_succ_self _
    · cases h
  · cases h

theorem lexIntVar_some {cs x r : List Char} (h : lexIntVar cs = some (x, r)) : UVName x ∧ r.length < cs.length := by
  unfold lexIntVar at h
  split at h
  · rename_i x' r' hx
    have ⟨hn, hl⟩ := lexUVar_some hx
    rw [List.length_cons] at hl
    split at h
    · rename_i r'' hs
      cases h
      exact ⟨hn, Nat.lt_trans (lexSortWord_length hs) (Nat.lt_of_succ_lt hl)⟩
    · split at h
      · cases h
      · cases h; exact ⟨hn, Nat.lt_of_succ_lt hl⟩
  · cases h

theorem lexSymVar_some {cs x r : List Char} (h : lexSymVar cs = some (x, r)) : UVName x ∧ r.length < cs.length := by
  unfold lexSymVar at h
  split at h
  · rename_i x' r' hx
    have ⟨hn, hl⟩ := lexUVar_some hx
    rw [List.length_cons] at hl
    split at h
    · rename_i r'' hs
      cases h
      exact ⟨hn, Nat.lt_trans (lexSortWord_length hs) (Nat.lt_of_succ_lt hl)⟩
    · cases h
  · cases h

theorem lexGenVar_some {cs x r : List Char} (h : lexGenVar cs = some (x, r)) : UVName x ∧ r.length < cs.length := by
  unfold lexGenVar at h
  split at h
  · rename_i x' r' hx
    have ⟨hn, hl⟩ := lexUVar_some hx
    split at h
    · rename_i r'' hs
      cases h
      rw [List.length_cons] at hl
      exact ⟨hn, Nat.lt_trans (lexSortWord_length hs) (Nat.lt_of_succ_lt hl)⟩
    · cases h; exact ⟨hn, hl⟩
  · rename_i x' r' _ hx
    cases h; exact lexUVar_some hx
  · cases h

theorem lexVariable_some {cs : List Char} {v : Var} {r : List Char} (h : lexVariable cs = some (v, r)) :
    Var.WF v ∧ r.length < cs.length := by
  have wf : ∀ {x : List Char} {s : Srt}, UVName x → Var.WF ⟨String.ofList x, s⟩ := fun hx => by
    rw [Var.WF, String.toList_ofList]; exact hx
  unfold lexVariable at h
  split at h
  · rename_i x r' hx
    cases h; exact ⟨wf (lexIntVar_some hx).1, (lexIntVar_some hx).2⟩
  · split at h
    · rename_i x r' hx
      cases h; exact ⟨wf (lexSymVar_some hx).1, (lexSymVar_some hx).2⟩
    · split at h
      · rename_i x r' hx
        cases h; exact ⟨wf (lexGenVar_some hx).1, (lexGenVar_some hx).2⟩
      · cases h

def ITokShaped (ts : List ITok) : Prop := ∀ t, ITok.prim t ∈ ts → ITerm.WF t

theorem ITokShaped.tail {a : ITok} {ts : List ITok} (h : ITokShaped (a :: ts)) : ITokShaped ts :=
  fun t ht => h t (List.mem_cons_of_mem _ ht)

theorem ITokShaped.append {a b : List ITok} (ha : ITokShaped a) (hb : ITokShaped b) : ITokShaped (a ++ b) :=
  fun t ht => (List.mem_append.mp ht).elim (ha t) (hb t)

theorem ipratt_shape : ∀ (f : Nat),
    (∀ rbp toks t r, ITokShaped toks → iprattExpr f rbp toks = some (t, r) → ITerm.WF t ∧ ITokShaped r) ∧
    (∀ rbp lhs toks t r, ITerm.WF lhs → ITokShaped toks → iprattLoop f rbp lhs toks = some (t, r) →
      ITerm.WF t ∧ ITokShaped r) := by
  intro f
  induction f with
  | zero => exact ⟨fun _ _ _ _ _ h => (by cases h), fun _ _ _ _ _ _ _ h => (by cases h)⟩
  | succ f ih =>
    obtain ⟨ihE, ihL⟩ := ih
    refine ⟨?_, ?_⟩
    · intro rbp toks t r hts h
      simp only [iprattExpr] at h
      split at h
      · rename_i r0
        split at h
        · rename_i a r' ha
          obtain ⟨sa, sr⟩ := ihE 39 r0 a r' hts.tail ha
          exact ihL rbp (.neg a) r' t r sa sr h
        · cases h
      · rename_i t0 r0
        exact ihL rbp t0 r0 t r (hts t0 List.mem_cons_self) hts.tail h
      · cases h
    · intro rbp lhs toks t r hl hts h
      simp only [iprattLoop] at h
      split at h
      · cases h; exact ⟨hl, fun _ hx => nomatch hx⟩
      · rename_i o r0
        split at h
        · split at h
          · rename_i rhs r' hr
            obtain ⟨sr, st⟩ := ihE (IOp.bp o) r0 rhs r' hts.tail hr
            exact ihL rbp (.bin o lhs rhs) r' t r ⟨hl, sr⟩ st h
          · cases h
        · cases h; exact ⟨hl, hts⟩
      · rename_i r0
        split at h
        · cases h
        · cases h; exact ⟨hl, hts⟩
      · cases h

theorem ipratt_shaped {toks : List ITok} {t : ITerm} (hts : ITokShaped toks) (h : ipratt toks = some t) : ITerm.WF t := by
  unfold ipratt at h
  split at h
  · rename_i t' heq
    cases h
    exact ((ipratt_shape _).1 0 toks _ [] hts heq).1
  · cases h

theorem lexNegs_shaped : ∀ (n : Nat) (first : Bool) (cs : List Char), ITokShaped (lexNegs n first cs).1 := by
  intro n
  induction n with
  | zero => exact fun _ _ _ ht => nomatch ht
  | succ n ih =>
    intro first cs t ht
    rw [lexNegs] at ht
    split at ht
    · rename_i r _
      exact ih false r t ((List.mem_cons.mp ht).resolve_left ITok.noConfusion)
    · cases ht

theorem ITokShaped.snoc {negs : List ITok} {t : ITerm} (hn : ITokShaped negs) (ht : ITerm.WF t) :
    ITokShaped (negs ++ [ITok.prim t]) :=
  hn.append fun u hu => by cases List.mem_singleton.mp hu; exact ht

theorem iterm_shape : ∀ (f : Nat),
    (∀ cs ts r, ioperand f cs = some (ts, r) → ITokShaped ts) ∧
    (∀ cs, ITokShaped (itailT f cs).1) ∧
    (∀ cs t r, itermL f cs = some (t, r) → ITerm.WF t) := by
  intro f
  induction f with
  | zero => exact ⟨fun _ _ _ h => (by cases h), fun _ _ ht => (nomatch ht), fun _ _ _ h => (by cases h)⟩
  | succ f ih =>
    obtain ⟨ihO, ihT, ihL⟩ := ih
    -- an operand followed by its tail, as `itermL` and `itailT` both read it
    have seq : ∀ cs ts r, iseqT f cs = some (ts, r) → ITokShaped ts := by
      intro cs ts r h
      unfold iseqT at h
      split at h
      · rename_i ts0 r0 hop
        cases h
        exact (ihO _ _ _ hop).append (ihT r0)
      · cases h
    refine ⟨?_, ?_, ?_⟩
    · intro cs ts r h
      simp only [ioperand] at h
      have hn := lexNegs_shaped (cs.length + 1) true cs
      have name : ∀ {l : List Char} {p : List Char → Prop}, p l → p (String.ofList l).toList := fun h => by
        rw [String.toList_ofList]; exact h
      split at h
      · cases h
        exact hn.snoc trivial
      · split at h
        · rename_i c r' hc
          cases h
          exact hn.snoc (name (lexFnConst_shape hc))
        · split at h
          · rename_i x r' hx
            cases h
            exact hn.snoc (name (lexIntVar_some hx).1)
          · split at h
            · split at h
              · rename_i t r2 ht
                split at h
                · cases h
                  exact hn.snoc (ihL _ _ _ ht)
                · cases h
              · cases h
            · cases h
    · intro cs
      rw [itailT_succ]
      split
      · split
        · rename_i ts r' hs
          exact fun t ht => seq _ _ _ hs t ((List.mem_cons.mp ht).resolve_left ITok.noConfusion)
        · exact fun _ ht => nomatch ht
      · exact fun _ ht => nomatch ht
    · intro cs t r h
      rw [itermL_succ] at h
      split at h
      · rename_i ts r' hs
        split at h
        · rename_i t' hp
          cases h
          exact ipratt_shaped (seq _ _ _ hs) hp
        · cases h
      · cases h

theorem stermL_shape {cs : List Char} {t : STerm} {r : List Char} (h : stermL cs = some (t, r)) : STerm.WF t := by
  unfold stermL at h
  split at h
  · rename_i c r' hc
    cases h
    simp only [STerm.WF, String.toList_ofList]; exact lexFnConst_shape hc
  · split at h
    · rename_i c r' hc
      cases h
      simp only [STerm.WF, String.toList_ofList]; exact lexSymConst_shape hc
    · split at h
      · rename_i x r' hx
        cases h
        simp only [STerm.WF, String.toList_ofList]; exact (lexSymVar_some hx).1
      · cases h

theorem gtermL_shape {cs : List Char} {t : GTerm} {r : List Char} (h : gtermL cs = some (t, r)) : GTerm.WF t := by
  unfold gtermL at h
  split at h
  · rename_i c r' hc
    cases h
    simp only [GTerm.WF, String.toList_ofList]; exact lexFnConst_shape hc
  · split at h
    · rename_i t' r' ht
      cases h
      exact (iterm_shape _).2.2 _ _ _ ht
    · split at h
      · rename_i t' r' ht
        cases h
        exact stermL_shape ht
      · split at h
        · rename_i x r' hx
          cases h
          simp only [GTerm.WF, String.toList_ofList]; exact (lexGenVar_some hx).1
        · split at h
          · cases h; trivial
          · split at h
            · cases h; trivial
            · cases h

theorem gtermL_sym {W : List Char} {s : String} {r : List Char} (h : gtermL W = some (.symb (.sym s), r)) :
    ∃ n, lexSymConst W = some (n, r) ∧ s = String.ofList n := by
  unfold gtermL at h
  split at h
  · cases h
  split at h
  · cases h
  split at h
  · rename_i t' r' ht
    cases h
    unfold stermL at ht
    split at ht
    · cases ht
    split at ht
    · rename_i c r'' hc
      cases ht
      exact ⟨c, hc, rfl⟩
    split at ht
    · cases ht
    · cases ht
  split at h
  · cases h
  split at h
  · cases h
  split at h
  · cases h
  · cases h

theorem gtermArgs_shape : ∀ (f : Nat) (cs : List Char), ∀ t ∈ (gtermArgs f cs).1, GTerm.WF t := by
  intro f
  induction f with
  | zero => intro cs t ht; simp [gtermArgs] at ht
  | succ f ih =>
    intro cs t ht
    simp only [gtermArgs] at ht
    split at ht
    · rename_i r _
      split at ht
      · rename_i t' r' hterm
        rcases List.mem_cons.mp ht with rfl | ht
        · exact gtermL_shape hterm
        · exact ih r' t ht
      · simp at ht
    · simp at ht

theorem atomL_some {cs : List Char} {a : Atom} {r : List Char} (h : atomL cs = some (a, r)) :
    ∃ s r0, lexSymConst cs = some (s, r0) ∧ a.pred = String.ofList s ∧ (∀ t ∈ a.args, GTerm.WF t) ∧
      (r = r0 ∨ ∃ r1, skip r0 = '(' :: r1) := by
  unfold atomL at h
  split at h
  · cases h
  · rename_i s r0 hs
    have plain : ((⟨String.ofList s, []⟩ : Atom), r0) = (a, r) →
        ∃ s r0, lexSymConst cs = some (s, r0) ∧ a.pred = String.ofList s ∧ (∀ t ∈ a.args, GTerm.WF t) ∧
          (r = r0 ∨ ∃ r1, skip r0 = '(' :: r1) := by
      intro e
      cases e
      exact ⟨s, _, hs, rfl, fun _ ht => (nomatch ht), Or.inl rfl⟩
    split at h
    · rename_i r1 hsk
      split at h
      · rename_i t r2 ht
        split at h
        rename_i ts r3 hargs
        split at h
        · cases h
          refine ⟨s, r0, hs, rfl, fun u hu => ?_, Or.inr ⟨r1, hsk⟩⟩
          rcases List.mem_cons.mp hu with rfl | hu
          · exact gtermL_shape ht
          · have := gtermArgs_shape (r2.length + 1) r2 u
            rw [hargs] at this
            exact this hu
        · exact plain (Option.some.inj h)
      · split at h
        · cases h
          exact ⟨s, r0, hs, rfl, fun _ ht => (nomatch ht), Or.inr ⟨r1, hsk⟩⟩
        · exact plain (Option.some.inj h)
    · exact plain (Option.some.inj h)

theorem atomL_shape {cs : List Char} {a : Atom} {r : List Char} (h : atomL cs = some (a, r)) : Atom.WF a := by
  obtain ⟨s, r0, hs, hp, hargs, -⟩ := atomL_some h
  refine ⟨?_, hargs⟩
  rw [hp, String.toList_ofList]
  exact lexSymConst_shape hs

theorem guardsL_shape : ∀ (f : Nat) (cs : List Char), ∀ g ∈ (guardsL f cs).1, GTerm.WF g.term := by
  intro f
  induction f with
  | zero => intro cs g hg; simp [guardsL] at hg
  | succ f ih =>
    intro cs g hg
    simp only [guardsL] at hg
    split at hg
    · rename_i rel r _
      split at hg
      · rename_i t r' ht
        rcases List.mem_cons.mp hg with rfl | hg
        · exact gtermL_shape ht
        · exact ih r' g hg
      · simp at hg
    · simp at hg

theorem comparisonL_some {cs : List Char} {a : AtomicF} {r : List Char} (h : comparisonL cs = some (a, r)) :
    ∃ t r0 gs, gtermL cs = some (t, r0) ∧ guardsL (r0.length + 1) r0 = (gs, r) ∧ gs ≠ [] ∧ a = .cmp t gs := by
  unfold comparisonL at h
  split at h
  · rename_i t r0 ht
    split at h
    · cases h
    · rename_i gs r' hne heq
      cases h
      exact ⟨t, r0, gs, ht, heq, hne, rfl⟩
  · cases h

theorem comparisonL_shape {cs : List Char} {a : AtomicF} {r : List Char} (h : comparisonL cs = some (a, r)) :
    AtomicF.WF a := by
  obtain ⟨t, r0, gs, ht, hgs, hne, rfl⟩ := comparisonL_some h
  refine ⟨gtermL_shape ht, hne, fun g hg => ?_⟩
  have := guardsL_shape (r0.length + 1) r0 g
  rw [hgs] at this
  exact this hg

end Anthem.Fol
