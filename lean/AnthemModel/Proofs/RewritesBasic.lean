/-
  The rewrites that act on comparisons, constants and connectives, the dropping of an empty
  quantifier and (classic portfolio only) of a double negation: `HTKeeps`, for the last `ClassKeeps`.
-/
import AnthemModel.Proofs.RewritesFV
namespace Anthem

theorem ht_foldl_and (M : HTI) (w : World) (ρ : Asg) (fs : List Formula) (acc : Formula) :
    ht M (fs.foldl (fun a e => .bin .and a e) acc) w ρ ↔ ht M acc w ρ ∧ ∀ f ∈ fs, ht M f w ρ := by
  induction fs generalizing acc with
  | nil => exact ⟨fun h => ⟨h, fun _ hf => (nomatch hf)⟩, fun h => h.1⟩
  | cons f fs ih =>
    simp only [List.foldl_cons, ih, List.mem_cons, forall_eq_or_imp]
    exact and_assoc

theorem ht_conjoin (M : HTI) (w : World) (ρ : Asg) (fs : List Formula) :
    ht M (conjoin fs) w ρ ↔ ∀ f ∈ fs, ht M f w ρ := by
  cases fs with
  | nil => exact ⟨fun _ _ hf => (nomatch hf), fun _ => trivial⟩
  | cons f fs => exact (ht_foldl_and M w ρ fs f).trans (List.forall_mem_cons (p := fun f => ht M f w ρ)).symm

theorem sat_conjoin (I : Interp) (ρ : Asg) (fs : List Formula) :
    sat I (conjoin fs) ρ ↔ ∀ f ∈ fs, sat I f ρ := by
  have := ht_conjoin ⟨I.pred, I.pred, I.fc⟩ .there ρ fs
  simp only [ht_there_eq_sat] at this
  exact this

theorem evalCmpLoop_sem (M : HTI) (w : World) (ρ : Asg) (gs : List Guard) (lhs : GTerm) :
    (∀ f ∈ evalCmpLoop lhs gs, ht M f w ρ) ↔ cmpChain M.fc ρ (lhs.eval M.fc ρ) gs := by
  induction gs generalizing lhs with
  | nil => simp [evalCmpLoop, cmpChain]
  | cons g gs ih =>
    simp only [evalCmpLoop, List.mem_cons, forall_eq_or_imp, ih, cmpChain]
    apply and_congr_left'
    split
    · rename_i h
      subst h
      -- on equal terms `=`, `<=`, `>=` hold (`#true`) and `!=`, `<`, `>` fail (`#false`)
      cases hr : g.rel <;>
        simp [Rel.holds, Formula.tru, Formula.fls, ht, AtomicF.sat, Dom.le_refl, Dom.lt_irrefl]
    · simp [ht, AtomicF.sat, cmpChain]

theorem evalCmpLoop_FV : ∀ (gs : List Guard) (t : GTerm) (F : Formula) (v : Var), F ∈ evalCmpLoop t gs → F.FV v →
    v ∈ t.vars ∨ ∃ g ∈ gs, v ∈ g.term.vars := by
  intro gs
  induction gs with
  | nil => intro t F v hF; simp [evalCmpLoop] at hF
  | cons g gs ih =>
    intro t F v hF hv
    simp only [evalCmpLoop, List.mem_cons] at hF
    rcases hF with rfl | hF
    · split at hv
      · split at hv <;> first | exact absurd hv (FV_tru v) | exact absurd hv (FV_fls v)
      · simp only [Formula.FV] at hv
        rcases mem_cmp_vars.mp hv with h | ⟨g', hg', h⟩
        · exact Or.inl h
        · simp only [List.mem_singleton] at hg'; subst hg'
          exact Or.inr ⟨_, List.mem_cons_self, h⟩
    · rcases ih g.term F v hF hv with h | ⟨g', hg', h⟩
      · exact Or.inr ⟨g, List.mem_cons_self, h⟩
      · exact Or.inr ⟨g', List.mem_cons_of_mem _ hg', h⟩

theorem evaluateComparisons_keeps (F : Formula) : HTKeeps (evaluateComparisons F) F := by
  unfold evaluateComparisons
  split
  · next t gs =>
    refine ⟨fun M _ w ρ => (ht_conjoin M w ρ _).trans (evalCmpLoop_sem M w ρ gs t), fun v hv => ?_⟩
    obtain ⟨f, hf, hfv⟩ := conjoin_FV.mp hv
    exact mem_cmp_vars.mpr (evalCmpLoop_FV gs t f v hf hfv)
  · exact HTKeeps.congr.refl F

theorem applyNegationDefinitionInverse_keeps (F : Formula) :
    HTKeeps (applyNegationDefinitionInverse F) F := by
  unfold applyNegationDefinitionInverse
  split
  · next l =>
    refine ⟨fun M hs w ρ => ⟨fun h => ⟨fun h' => h ?_, h⟩, fun h => h.2⟩, fun v hv => Or.inl hv⟩
    cases w
    · exact ht_persist M hs l ρ h'
    · exact h'
  · exact HTKeeps.congr.refl F

theorem applyReverseImplicationDefinition_keeps (F : Formula) :
    HTKeeps (applyReverseImplicationDefinition F) F := by
  unfold applyReverseImplicationDefinition
  split
  · exact ⟨fun M _ w ρ => Iff.rfl, fun v hv => hv.symm⟩
  · exact HTKeeps.congr.refl F

theorem applyEquivalenceDefinitionInverse_keeps (F : Formula) :
    HTKeeps (applyEquivalenceDefinitionInverse F) F := by
  unfold applyEquivalenceDefinitionInverse
  split
  · split
    · next h =>
      obtain ⟨rfl, rfl⟩ := h
      exact ⟨fun M _ w ρ => Iff.rfl, fun v hv => Or.inl hv⟩
    · exact HTKeeps.congr.refl _
  · exact HTKeeps.congr.refl F

theorem removeIdentities_keeps (F : Formula) : HTKeeps (removeIdentities F) F := by
  unfold removeIdentities
  split
  · exact ⟨fun M _ w ρ => (and_iff_left trivial).symm, fun v hv => Or.inl hv⟩
  · exact ⟨fun M _ w ρ => (and_iff_right trivial).symm, fun v hv => Or.inr hv⟩
  · exact ⟨fun M _ w ρ => (or_iff_left id).symm, fun v hv => Or.inl hv⟩
  · exact ⟨fun M _ w ρ => (or_iff_right id).symm, fun v hv => Or.inr hv⟩
  · next r =>
    refine ⟨fun M hs w ρ => ⟨fun h => ⟨fun _ => h, fun _ => ?_⟩, fun h => h.1 trivial⟩, fun v hv => Or.inr hv⟩
    cases w
    · exact ht_persist M hs r ρ h
    · exact h
  · exact HTKeeps.congr.refl F

theorem HTKeeps.of_tru {F : Formula} (h : HTEquiv .tru F) : HTKeeps .tru F := ⟨h, fun v hv => absurd hv (FV_tru v)⟩
theorem HTKeeps.of_fls {F : Formula} (h : HTEquiv .fls F) : HTKeeps .fls F := ⟨h, fun v hv => absurd hv (FV_fls v)⟩

theorem removeAnnihilations_keeps (F : Formula) : HTKeeps (removeAnnihilations F) F := by
  unfold removeAnnihilations
  split
  · exact .of_tru fun M _ w ρ => iff_of_true trivial (Or.inr trivial)
  · exact .of_tru fun M _ w ρ => iff_of_true trivial (Or.inl trivial)
  · exact .of_fls fun M _ w ρ => iff_of_false id (fun h => h.2)
  · exact .of_fls fun M _ w ρ => iff_of_false id (fun h => h.1)
  · exact .of_tru fun M _ w ρ => iff_of_true trivial ⟨fun _ => trivial, fun _ => trivial⟩
  · exact .of_tru fun M _ w ρ => iff_of_true trivial ⟨False.elim, False.elim⟩
  · split
    · next h => exact h ▸ .of_tru fun M _ w ρ => iff_of_true trivial ⟨id, id⟩
    · exact HTKeeps.congr.refl _
  · exact HTKeeps.congr.refl F

theorem removeIdempotences_keeps (F : Formula) : HTKeeps (removeIdempotences F) F := by
  unfold removeIdempotences
  split
  · split
    · next h => exact h ▸ ⟨fun M _ w ρ => ⟨fun h => ⟨h, h⟩, fun h => h.1⟩, fun v hv => Or.inl hv⟩
    · exact HTKeeps.congr.refl _
  · split
    · next h => exact h ▸ ⟨fun M _ w ρ => ⟨Or.inl, fun h => h.elim id id⟩, fun v hv => Or.inl hv⟩
    · exact HTKeeps.congr.refl _
  · exact HTKeeps.congr.refl F

theorem removeEmptyQuantifications_keeps (F : Formula) :
    HTKeeps (removeEmptyQuantifications F) F := by
  unfold removeEmptyQuantifications
  split
  · split
    · next q vs f h =>
      cases List.isEmpty_iff.mp h
      -- `f.quantify q []` is `f` by definition
      exact ⟨fun M _ w ρ => (ht_quantify M f q [] w ρ), fun v hv => ⟨hv, List.not_mem_nil⟩⟩
    · exact HTKeeps.congr.refl _
  · exact HTKeeps.congr.refl F

/-- `not not F` and `F` agree classically but not in HT (`ht` of a negation looks at `there` only),
    which is why the source has this rewrite in `CLASSIC`. -/
theorem removeDoubleNegation_keeps (F : Formula) : ClassKeeps (removeDoubleNegation F) F := by
  unfold removeDoubleNegation
  split
  · exact ⟨fun I ρ => Classical.not_not.symm, fun v hv => hv⟩
  · exact ClassKeeps.congr.refl F

end Anthem
