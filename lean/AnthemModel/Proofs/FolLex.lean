/-
  Lexical facts for the target-language round trip (C15): what the lexers of Model/FolParse do on a
  printed name / sorted name followed by a character that cannot continue it.
-/
import AnthemModel.Model.FolParse
import AnthemModel.Proofs.AspLex
namespace Anthem.Fol
open Anthem.Asp (isWs skip stripPrefix isIdChar isNonzeroDigit SymName NoId StopsAt Solid StartsSolid
  takeWhile_append_stop noId_cons skip_cons_solid skip_of_startsSolid lower_idChar lower_solid upper_solid)

/-- the characters of an unsorted variable: `_? [A-Z] [A-Za-z0-9_]*` -/
def UVName (l : List Char) : Prop :=
  (∃ c w, l = c :: w ∧ c.isUpper = true ∧ ∀ x ∈ w, isIdChar x = true) ∨
  (∃ c w, l = '_' :: c :: w ∧ c.isUpper = true ∧ ∀ x ∈ w, isIdChar x = true)

def NoIdNE (rest : List Char) : Prop := ∃ c r, rest = c :: r ∧ isIdChar c = false

theorem NoIdNE.noId {rest : List Char} (h : NoIdNE rest) : NoId rest := by
  obtain ⟨c, r, rfl, hc⟩ := h
  exact noId_cons r hc

theorem upper_idChar {c : Char} (h : c.isUpper = true) : isIdChar c = true := by
  simp only [isIdChar, Char.isAlphanum, Char.isAlpha, h, Bool.true_or]

theorem upper_not_lower {c : Char} (h : c.isUpper = true) : c.isLower = false := by
  simp only [Char.isUpper, decide_eq_true_eq] at h
  simp only [Char.isLower, Bool.and_eq_false_iff, decide_eq_false_iff_not]
  exact Or.inl fun h' => absurd (Nat.le_trans (show 97 ≤ c.val.toNat from h') h.2) (by decide)

theorem lower_not_upper {c : Char} (h : c.isLower = true) : c.isUpper = false := by
  cases hu : c.isUpper with
  | false => rfl
  | true => rw [upper_not_lower hu] at h; cases h

theorem digit_not_lower {c : Char} (h : c.isDigit = true) : c.isLower = false := by
  simp only [Char.isDigit, Bool.and_eq_true, decide_eq_true_eq] at h
  simp only [Char.isLower, Bool.and_eq_false_iff, decide_eq_false_iff_not]
  exact Or.inl fun h' => absurd (Nat.le_trans (show 97 ≤ c.val.toNat from h') h.2) (by decide)

theorem lower_ne_underscore {c : Char} (h : c.isLower = true) : c ≠ '_' := by
  intro e; subst e; revert h; decide

theorem upper_ne_underscore {c : Char} (h : c.isUpper = true) : c ≠ '_' := by
  intro e; subst e; revert h; decide

/-- the keywords consist of identifier characters -/
theorem isKeyword_name (l rest : List Char) (hr : NoIdNE rest) :
    isKeyword (l ++ rest) = false := by
  obtain ⟨c, r, rfl, hc⟩ := hr
  have key : ∀ k : List Char, k.all isIdChar = true → decide (l ++ c :: r = k) = false := by
    intro k hk
    refine decide_eq_false fun e => ?_
    have hck := List.all_eq_true.mp hk c (e ▸ List.mem_append_right l List.mem_cons_self)
    rw [hc] at hck; cases hck
  unfold isKeyword
  rw [key _ (by decide +kernel), key _ (by decide +kernel), key _ (by decide +kernel), key _ (by decide +kernel),
    key _ (by decide +kernel)]
  rfl

theorem lexUVar_underscore (c : Char) (r : List Char) : lexUVar ('_' :: c :: r) =
    if c.isUpper then some ('_' :: c :: r.takeWhile isIdChar, r.dropWhile isIdChar) else none := rfl

theorem lexUVar_cons (c : Char) (r : List Char) (h : c ≠ '_') : lexUVar (c :: r) =
    if c.isUpper then some (c :: r.takeWhile isIdChar, r.dropWhile isIdChar) else none := by
  unfold lexUVar
  split
  · rename_i heq; exact absurd (List.cons.inj heq).1 h
  · rename_i heq; cases heq; rfl
  · rename_i heq; cases heq

theorem lexSymConst_underscore (c : Char) (r : List Char) (hk : isKeyword ('_' :: c :: r) = false) :
    lexSymConst ('_' :: c :: r) =
      if c.isLower then some ('_' :: c :: r.takeWhile isIdChar, r.dropWhile isIdChar) else none := by
  simp only [lexSymConst, hk, Bool.false_eq_true, if_false]

theorem lexSymConst_cons (c : Char) (r : List Char) (h : c ≠ '_') (hk : isKeyword (c :: r) = false) :
    lexSymConst (c :: r) =
      if c.isLower then some (c :: r.takeWhile isIdChar, r.dropWhile isIdChar) else none := by
  unfold lexSymConst
  rw [hk, if_neg Bool.false_ne_true]
  split
  · rename_i heq; exact absurd (List.cons.inj heq).1 h
  · rename_i heq; cases heq; rfl
  · rename_i heq; cases heq

theorem lexSymConst_append (l rest : List Char) (h : SymName l) (hr : NoIdNE rest) :
    lexSymConst (l ++ rest) = some (l, rest) := by
  have hk := isKeyword_name l rest hr
  rcases h with ⟨c, w, rfl, hc, hw⟩ | ⟨c, w, rfl, hc, hw⟩ <;>
    obtain ⟨t1, t2⟩ := takeWhile_append_stop (p := isIdChar) hw hr.noId
  · rw [List.cons_append] at hk ⊢
    rw [lexSymConst_cons c _ (lower_ne_underscore hc) hk, if_pos hc, t1, t2]
  · rw [List.cons_append, List.cons_append] at hk ⊢
    rw [lexSymConst_underscore c _ hk, if_pos hc, t1, t2]

theorem lexUVar_append (l rest : List Char) (h : UVName l) (hr : NoId rest) :
    lexUVar (l ++ rest) = some (l, rest) := by
  rcases h with ⟨c, w, rfl, hc, hw⟩ | ⟨c, w, rfl, hc, hw⟩ <;>
    obtain ⟨t1, t2⟩ := takeWhile_append_stop (p := isIdChar) hw hr
  · rw [List.cons_append, lexUVar_cons c _ (upper_ne_underscore hc), if_pos hc, t1, t2]
  · rw [List.cons_append, List.cons_append, lexUVar_underscore, if_pos hc, t1, t2]

theorem lexSymConst_none_of_head (c : Char) (r : List Char) (h1 : c.isLower = false) (h2 : c ≠ '_') :
    lexSymConst (c :: r) = none := by
  cases hk : isKeyword (c :: r) with
  | true => simp only [lexSymConst, hk, if_true]
  | false => rw [lexSymConst_cons c r h2 hk, h1]; rfl

theorem lexUVar_none_of_head (c : Char) (r : List Char) (h1 : c.isUpper = false) (h2 : c ≠ '_') :
    lexUVar (c :: r) = none := by
  rw [lexUVar_cons c r h2, h1]; rfl

theorem not_idChar {c : Char} (h : isIdChar c = false) :
    c.isLower = false ∧ c.isUpper = false ∧ c.isDigit = false ∧ c ≠ '_' := by
  simp only [isIdChar, Char.isAlphanum, Char.isAlpha, Bool.or_eq_false_iff, decide_eq_false_iff_not] at h
  exact ⟨h.1.1.2, h.1.1.1, h.1.2, h.2⟩

theorem lexSymConst_nonId (c : Char) (r : List Char) (h : isIdChar c = false) : lexSymConst (c :: r) = none :=
  lexSymConst_none_of_head c r (not_idChar h).1 (not_idChar h).2.2.2

theorem lexUVar_nonId (c : Char) (r : List Char) (h : isIdChar c = false) : lexUVar (c :: r) = none :=
  lexUVar_none_of_head c r (not_idChar h).2.1 (not_idChar h).2.2.2

theorem lexUVar_symName (l rest : List Char) (h : SymName l) : lexUVar (l ++ rest) = none := by
  rcases h with ⟨c, w, rfl, hc, _⟩ | ⟨c, w, rfl, hc, _⟩
  · exact lexUVar_none_of_head c _ (lower_not_upper hc) (lower_ne_underscore hc)
  · rw [List.cons_append, List.cons_append, lexUVar_underscore, lower_not_upper hc]; rfl

theorem lexSymConst_uvName (l rest : List Char) (h : UVName l) : lexSymConst (l ++ rest) = none := by
  rcases h with ⟨c, w, rfl, hc, _⟩ | ⟨c, w, rfl, hc, _⟩
  · exact lexSymConst_none_of_head c _ (upper_not_lower hc) (upper_ne_underscore hc)
  · rw [List.cons_append, List.cons_append]
    cases hk : isKeyword ('_' :: c :: (w ++ rest)) with
    | true => simp only [lexSymConst, hk, if_true]
    | false => rw [lexSymConst_underscore c _ hk, upper_not_lower hc]; rfl

theorem lexSortWord_hit (first : Char) (more : String) (rest : List Char)
    (hm : ∃ m ms, more.toList = m :: ms ∧ isIdChar m = true) (hr : NoId rest) :
    lexSortWord first more (first :: rest) = some rest := by
  obtain ⟨m, ms, hmm, hid⟩ := hm
  have : stripPrefix more.toList rest = none := by
    rw [hmm]
    cases rest with
    | nil => rfl
    | cons c r =>
      have hc : isIdChar c = false := hr c r rfl
      have : m ≠ c := by intro e; subst e; rw [hid] at hc; cases hc
      simp only [stripPrefix, this, if_false]
  simp only [lexSortWord, this, if_true]

theorem lexSortWord_miss (first : Char) (more : String) (c : Char) (r : List Char) (h : c ≠ first) :
    lexSortWord first more (c :: r) = none := by
  simp only [lexSortWord, h, if_false]

theorem lexSortI_hit (rest : List Char) (hr : NoId rest) : lexSortI ('i' :: rest) = some rest :=
  lexSortWord_hit 'i' "nteger" rest ⟨'n', _, rfl, by decide⟩ hr
theorem lexSortS_hit (rest : List Char) (hr : NoId rest) : lexSortS ('s' :: rest) = some rest :=
  lexSortWord_hit 's' "ymbol" rest ⟨'y', _, rfl, by decide⟩ hr
theorem lexSortG_hit (rest : List Char) (hr : NoId rest) : lexSortG ('g' :: rest) = some rest :=
  lexSortWord_hit 'g' "eneral" rest ⟨'e', _, rfl, by decide⟩ hr

theorem lexFnConst_hit (sortLex : List Char → Option (List Char)) (s : Char) (l rest : List Char) (h : SymName l)
    (hs : sortLex (s :: rest) = some rest) : lexFnConst sortLex (l ++ '$' :: s :: rest) = some (l, rest) := by
  simp only [lexFnConst, lexSymConst_append l ('$' :: s :: rest) h ⟨'$', _, rfl, by decide⟩, hs]

theorem lexFnConst_miss_sort (sortLex : List Char → Option (List Char)) (s : Char) (l rest : List Char) (h : SymName l)
    (hs : sortLex (s :: rest) = none) : lexFnConst sortLex (l ++ '$' :: s :: rest) = none := by
  simp only [lexFnConst, lexSymConst_append l ('$' :: s :: rest) h ⟨'$', _, rfl, by decide⟩, hs]

theorem lexFnConst_plain (sortLex : List Char → Option (List Char)) (l rest : List Char) (h : SymName l)
    (hr : NoIdNE rest) (hd : ∀ r, rest ≠ '$' :: r) : lexFnConst sortLex (l ++ rest) = none := by
  simp only [lexFnConst, lexSymConst_append l rest h hr]
  split
  · rename_i s r heq
    exact absurd (Prod.mk.inj (Option.some.inj heq)).2 (hd r)
  · rfl

theorem lexFnConst_none_of_symConst (sortLex : List Char → Option (List Char)) (cs : List Char)
    (h : lexSymConst cs = none) : lexFnConst sortLex cs = none := by
  simp only [lexFnConst, h]

theorem lexVars_plain (l Y : List Char) (h : UVName l) (hY : NoId Y) (hd : ∀ r, Y ≠ '$' :: r) :
    lexIntVar (l ++ Y) = none ∧ lexSymVar (l ++ Y) = none ∧ lexGenVar (l ++ Y) = some (l, Y) := by
  have huv := lexUVar_append l Y h hY
  refine ⟨?_, ?_, ?_⟩
  · unfold lexIntVar; rw [huv]
    split
    · rename_i heq; exact absurd (Prod.mk.inj (Option.some.inj heq)).2 (hd _)
    · rfl
  · unfold lexSymVar; rw [huv]
    split
    · rename_i heq; exact absurd (Prod.mk.inj (Option.some.inj heq)).2 (hd _)
    · rfl
  · unfold lexGenVar; rw [huv]
    split
    · rename_i heq; exact absurd (Prod.mk.inj (Option.some.inj heq)).2 (hd _)
    · rename_i heq; cases heq; rfl
    · rename_i heq; cases heq

theorem lexSort_s (rest : List Char) (hr : NoId rest) : lexSortG ('s' :: rest) = none ∧
    lexSortI ('s' :: rest) = none ∧ lexSort ('s' :: rest) = some (.symbol, rest) := by
  have g0 : lexSortG ('s' :: rest) = none := lexSortWord_miss 'g' "eneral" 's' rest (by decide)
  have s1 : lexSortI ('s' :: rest) = none := lexSortWord_miss 'i' "nteger" 's' rest (by decide)
  exact ⟨g0, s1, by simp only [lexSort, g0, s1, lexSortS_hit rest hr]⟩

theorem lexVars_sortS (l rest : List Char) (h : UVName l) (hr : NoId rest) :
    lexIntVar (l ++ '$' :: 's' :: rest) = none ∧ lexSymVar (l ++ '$' :: 's' :: rest) = some (l, rest) := by
  have huv := lexUVar_append l ('$' :: 's' :: rest) h (noId_cons _ (by decide))
  obtain ⟨_, s1, s2⟩ := lexSort_s rest hr
  exact ⟨by simp only [lexIntVar, huv, s1, s2, Option.isSome_some, if_true],
    by simp only [lexSymVar, huv, lexSortS_hit rest hr]⟩

theorem lexIntVar_sortI (l rest : List Char) (h : UVName l) (hr : NoId rest) :
    lexIntVar (l ++ '$' :: 'i' :: rest) = some (l, rest) := by
  simp only [lexIntVar, lexUVar_append l ('$' :: 'i' :: rest) h (noId_cons _ (by decide)), lexSortI_hit rest hr]

end Anthem.Fol
