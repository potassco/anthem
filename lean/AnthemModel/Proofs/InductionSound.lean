/-
  Soundness of the induction scheme of proof outlines: well-sorted assignments, elimination of a
  universal closure, and `induction_sound`.
-/
import AnthemModel.Proofs.SubstBasic
namespace Anthem.Outline

def WS (ρ : Asg) : Prop := ∀ v : Var, (ρ v).inSort v.sort

theorem WS.set {ρ : Asg} (h : WS ρ) (v : Var) (d : Dom) (hd : d.inSort v.sort) : WS (ρ.set v d) := by
  intro w
  by_cases e : w = v
  · subst e; simpa using hd
  · rw [Asg.set_other _ _ e]; exact h w

theorem allUpd_ws {L : List Var} {ρ τ : Asg} (h : WS ρ) (hτ : AllUpd L ρ τ) : WS τ := by
  intro v
  by_cases hv : v ∈ L
  · exact hτ.2 v hv
  · rw [hτ.1 v hv]; exact h v

theorem closure_elim (J : Interp) (G : Formula) (ρ : Asg) (h : sat J G.universalClosure ρ) :
    ∀ τ : Asg, WS τ → sat J G τ := by
  intro τ hτ
  unfold Formula.universalClosure at h
  rw [sat_quantify] at h
  simp only [sat] at h
  -- instantiate the closure with the values of τ on the free variables
  let σ : Asg := fun v => if v ∈ G.fv then τ v else ρ v
  have hσ : AllUpd G.fv ρ σ := ⟨fun v hv => by simp [σ, hv], fun v hv => by simp [σ, hv, hτ v]⟩
  have := bindAll_iff.mp h σ hσ
  refine (sat_agree J G σ τ ?_).mp this
  intro v hv
  simp [σ, Formula.mem_fv.mpr hv]

theorem _root_.Anthem.Asg.set_set (ρ : Asg) (v : Var) (d d' : Dom) : (ρ.set v d).set v d' = ρ.set v d' := by
  funext w
  by_cases hw : w = v
  · rw [hw, Asg.set_same, Asg.set_same]
  · rw [Asg.set_other _ _ hw, Asg.set_other _ _ hw, Asg.set_other _ _ hw]

/-- for a numeral or `N + 1` for `N`: a quantifier that binds `w` stops the substitution, any other binds no
    variable of the term -/
theorem noRename_of_only_self {tv : List Var} {w : Var} (htv : ∀ x ∈ tv, x = w) : ∀ F : Formula, NoRename tv w F := by
  intro F
  induction F with
  | atomic _ => trivial
  | not f ih => exact ih
  | bin c l r ihl ihr => exact ⟨ihl, ihr⟩
  | quant q vs f ih =>
    by_cases h : w ∈ vs
    · exact Or.inl h
    · exact Or.inr ⟨fun x hx hmem => h (htv x hmem ▸ hx), ih⟩

theorem sat_subst_noRename (J : Interp) (F : Formula) (v : Var) (s : GTerm)
    (hc : SortCompatible v s) (hn : NoRename s.vars v F) (ρ : Asg) :
    sat J (F.subst v s) ρ ↔ sat J F (ρ.set v (s.eval J.fc ρ)) := by
  have := ht_substFuel_noRename ⟨J.pred, J.pred, J.fc⟩ v s hc (F.depth + 1) F (Nat.le_succ _) hn .there ρ
  rwa [ht_there_eq_sat, ht_there_eq_sat] at this

/-- `base` and `step` are exactly the two obligations `inductive_lemma` builds for
    `forall N$i … (N$i >= n -> F)`; the conclusion says that the lemma later used as an axiom is true. -/
theorem induction_sound (J : Interp) (F : Formula) (v : String) (n : Int) (ρ₀ : Asg)
    (hbase : sat J (F.subst ⟨v, .integer⟩ (.int (.num n))).universalClosure ρ₀)
    (hstep : sat J (Formula.bin .imp
        (.bin .and (.atomic (.cmp (.int (.var v)) [⟨.ge, .int (.num n)⟩])) F)
        (F.subst ⟨v, .integer⟩ (.int (.bin .add (.var v) (.num 1))))).universalClosure ρ₀) :
    ∀ (τ : Asg), WS τ → ∀ z : Int, n ≤ z → sat J F (τ.set ⟨v, .integer⟩ (.num z)) := by
  intro τ hτ z hz
  have hcI : ∀ t : ITerm, SortCompatible ⟨v, .integer⟩ (.int t) :=
    fun t => ⟨fun _ => ⟨t, rfl⟩, fun h => by cases h⟩
  obtain ⟨k, rfl⟩ := Int.le.dest hz
  clear hz
  induction k with
  | zero =>
    have h := closure_elim J _ ρ₀ hbase τ hτ
    rw [sat_subst_noRename J F ⟨v, .integer⟩ (.int (.num n)) (hcI _) (noRename_of_only_self (fun _ h => by cases h) F)] at h
    simpa [GTerm.eval, ITerm.eval] using h
  | succ k ih =>
    have hτ' : WS (τ.set ⟨v, .integer⟩ (.num (n + k))) := hτ.set _ _ trivial
    have h := closure_elim J _ ρ₀ hstep _ hτ'
    simp only [sat, AtomicF.sat, cmpChain, and_true] at h
    have hge : Rel.holds .ge (GTerm.eval J.fc (τ.set ⟨v, .integer⟩ (.num (n + k))) (.int (.var v)))
        (GTerm.eval J.fc (τ.set ⟨v, .integer⟩ (.num (n + k))) (.int (.num n))) := by
      simp [GTerm.eval, ITerm.eval, Rel.holds, Dom.le, Dom.toInt]; omega  -- `n ≤ n + k`
    have h2 := h ⟨hge, ih⟩
    rw [sat_subst_noRename J F ⟨v, .integer⟩ (.int (.bin .add (.var v) (.num 1))) (hcI _)
      (noRename_of_only_self (fun _ h => List.mem_singleton.mp h) F)] at h2
    have ev : GTerm.eval J.fc (τ.set ⟨v, .integer⟩ (.num (n + k))) (.int (.bin .add (.var v) (.num 1))) =
        .num (n + ((k + 1 : Nat) : Int)) := by
      simp only [GTerm.eval, ITerm.eval, Asg.set_same, IOp.eval, Dom.toInt]
      congr 1; omega  -- `n + k + 1 = n + (k + 1)`
    rwa [Asg.set_set, ev] at h2

end Anthem.Outline
