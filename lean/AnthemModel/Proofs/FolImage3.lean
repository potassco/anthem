/-
  The image of the target-language parser: no atomic formula of an accepted text starts with the
  name `not` (the parser reads a negation there), hence every accepted formula is safe and the
  round-trip theorems apply to everything the parser accepts.
-/
import AnthemModel.Proofs.FolImage2
import AnthemModel.Proofs.FolUgRT
namespace Anthem.Fol
open Anthem.Asp (isWs skip skipAux stripPrefix isIdChar SymName NoId Solid StartsSolid takeWhile_all
  skip_of_startsSolid skip_cons_solid skip_idem)

def NoDollar (r : List Char) : Prop := ∀ x, r ≠ '$' :: x

theorem not_name_dollar {W s r : List Char} (hp : prefixL W = none) (hl : lexSymConst W = some (s, r))
    (hs : s = ['n', 'o', 't']) : ∃ x, r = '$' :: x := by
  obtain ⟨-, e, hno⟩ := lexSymConst_some hl
  subst hs
  have hstrip : stripPrefix "not".toList W = some r := by rw [e]; exact Asp.stripPrefix_append _ _
  have hn := prefixL_none_not hp hstrip
  cases r with
  | nil => simp [notWordNext] at hn
  | cons c r' =>
    have hc := hno c r' rfl
    simp only [notWordNext, hc, Bool.false_or, Bool.not_eq_false', beq_iff_eq] at hn
    exact ⟨r', by rw [hn]⟩

theorem ofList_not {s : List Char} (h : (String.ofList s).toList = ['n', 'o', 't']) : s = ['n', 'o', 't'] := by
  rwa [String.toList_ofList] at h

theorem atomL_notFirst {W : List Char} {a : Atom} {r : List Char} (hp : prefixL W = none)
    (h : atomL W = some (a, r)) (hr : NoDollar r) : a.pred.toList ≠ ['n', 'o', 't'] := by
  intro hnot
  obtain ⟨s, r0, hs, hpred, -, hrest⟩ := atomL_some h
  rw [hpred] at hnot
  -- the text after the name starts with `$`: no argument list, and the rest starts with `$`
  obtain ⟨x, rfl⟩ := not_name_dollar hp hs (ofList_not hnot)
  rcases hrest with rfl | ⟨r1, h1⟩
  · exact hr x rfl
  · rw [skip_dollar] at h1
    exact absurd (List.cons.inj h1).1 (by decide)

theorem lexRelation_dollar (x : List Char) : lexRelation (skip ('$' :: x)) = none := by
  rw [skip_dollar]; rfl

theorem comparisonL_notFirst {W : List Char} {a : AtomicF} {r : List Char} (hp : prefixL W = none)
    (h : comparisonL W = some (a, r)) : AtomicF.NotFirst a := by
  obtain ⟨t, r0, gs, ht, hgs, hne, rfl⟩ := comparisonL_some h
  cases t with
  | symb st =>
    cases st with
    | sym s =>
      intro hnot
      obtain ⟨n, hn, rfl⟩ := gtermL_sym ht
      obtain ⟨x, rfl⟩ := not_name_dollar hp hn (ofList_not hnot)
      -- no relation symbol starts with `$`, so there is no guard
      rw [guardsL, lexRelation_dollar] at hgs
      exact hne (Prod.mk.inj hgs).1.symm
    | fc c => trivial
    | var v => trivial
  | inf | sup | fc _ | var _ | int _ => trivial

theorem atomicL_safe {W : List Char} {a : AtomicF} {r : List Char} (hp : prefixL W = none)
    (h : atomicL W = some (a, r)) (hr : NoDollar r) : AtomicF.Safe a := by
  unfold atomicL at h
  split at h
  · cases h; exact ⟨trivial, trivial⟩
  · split at h
    · cases h; exact ⟨trivial, trivial⟩
    · split at h
      · rename_i x hx
        cases h
        exact ⟨comparisonL_shape hx, comparisonL_notFirst hp hx⟩
      · split at h
        · rename_i a' r' ha
          cases h
          exact ⟨atomL_shape ha, atomL_notFirst hp ha hr⟩
        · cases h

theorem fpratt_img : ∀ (f : Nat),
    (∀ rbp toks t r, FTokImg toks → fprattExpr f rbp toks = some (t, r) → Formula.Safe t ∧ FTokImg r) ∧
    (∀ rbp lhs toks t r, Formula.Safe lhs → FTokImg toks → fprattLoop f rbp lhs toks = some (t, r) →
      Formula.Safe t ∧ FTokImg r) := by
  intro f
  induction f with
  | zero => exact ⟨fun _ _ _ _ _ h => (by cases h), fun _ _ _ _ _ _ _ h => (by cases h)⟩
  | succ f ih =>
    obtain ⟨ihE, ihL⟩ := ih
    refine ⟨?_, ?_⟩
    · intro rbp toks t r hts h
      simp only [fprattExpr] at h
      split at h
      · rename_i r0
        split at h
        · rename_i a r' ha
          obtain ⟨sa, sr⟩ := ihE 49 r0 a r' hts.tail ha
          exact ihL rbp (.not a) r' t r sa sr h
        · cases h
      · rename_i q vs r0
        split at h
        · rename_i a r' ha
          obtain ⟨sa, sr⟩ := ihE 49 r0 a r' hts.tail ha
          have hq : FTok.Img (.pquant q vs) := hts _ List.mem_cons_self
          exact ihL rbp (.quant q vs a) r' t r ⟨hq.1, hq.2, sa⟩ sr h
        · cases h
      · rename_i t0 r0
        exact ihL rbp t0 r0 t r (hts (.prim t0) List.mem_cons_self) hts.tail h
      · cases h
    · intro rbp lhs toks t r hl hts h
      simp only [fprattLoop] at h
      split at h
      · cases h; exact ⟨hl, fun _ hx => nomatch hx⟩
      · rename_i c r0
        split at h
        · split at h
          · rename_i rhs r' hr
            obtain ⟨sr, st⟩ := ihE (Conn.rbp c) r0 rhs r' hts.tail hr
            exact ihL rbp (.bin c lhs rhs) r' t r ⟨hl, sr⟩ st h
          · cases h
        · cases h; exact ⟨hl, hts⟩
      · rename_i r0
        split at h
        · cases h
        · cases h; exact ⟨hl, hts⟩
      · rename_i q vs r0
        split at h
        · cases h
        · cases h; exact ⟨hl, hts⟩
      · cases h

theorem fpratt_safe {toks : List FTok} {t : Formula} (hts : FTokImg toks) (h : fpratt toks = some t) : Formula.Safe t := by
  unfold fpratt at h
  split at h
  · rename_i t' heq
    cases h
    exact ((fpratt_img _).1 0 toks _ [] hts heq).1
  · cases h

theorem noDollar_of_skip {r : List Char} {c : Char} {r' : List Char} (h : skip r = c :: r') (hc : c ≠ '$') : NoDollar r := by
  intro x e
  subst e
  rw [skip_dollar] at h
  injection h with h1 _
  exact hc h1.symm

theorem noDollar_of_conn {r : List Char} {x : Conn × List Char} (h : lexConn (skip r) = some x) : NoDollar r := by
  intro y e
  subst e
  rw [lexConn_dollar] at h
  cases h

theorem formula_img : ∀ (f : Nat),
    (∀ cs ts r, skip cs = cs → foperand f cs = some (ts, r) → NoDollar r → FTokImg ts) ∧
    (∀ cs, NoDollar (ftailT f cs).2 → FTokImg (ftailT f cs).1) ∧
    (∀ cs t r, skip cs = cs → formulaL f cs = some (t, r) → NoDollar r → Formula.Safe t) := by
  intro f
  induction f with
  | zero =>
    exact ⟨fun _ _ _ _ h => by simp [foperand] at h, fun _ _ t ht => by simp [ftailT] at ht,
      fun _ _ _ _ h => by simp [formulaL] at h⟩
  | succ f ih =>
    obtain ⟨ihO, ihT, ihL⟩ := ih
    have single : ∀ (pres : List FTok) (g : Formula), FTokImg pres → Formula.Safe g → FTokImg (pres ++ [FTok.prim g]) :=
      fun pres g hn hg => hn.append (FTokImg.cons hg fun _ hu => nomatch hu)
    -- the operand/tail pair that `formulaL` and `ftailT` both use
    have pair : ∀ (cs : List Char) (ts : List FTok) (r1 : List Char), skip cs = cs → foperand f cs = some (ts, r1) →
        NoDollar (ftailT f r1).2 → FTokImg (ts ++ (ftailT f r1).1) := by
      intro cs ts r1 hcs hop hnd
      have hr1 : NoDollar r1 := by
        rcases ftailT_cases f r1 with h | ⟨c, r, h⟩
        · rw [h] at hnd; exact hnd
        · exact noDollar_of_conn h
      exact (ihO cs ts r1 hcs hop hr1).append (ihT r1 hnd)
    refine ⟨?_, ?_, ?_⟩
    · intro cs ts r hcs h hr
      simp only [foperand] at h
      have hn := prefixesL_img (cs.length + 1) true cs
      have hstop := prefixesL_stop (cs.length + 1) true cs (Nat.lt_succ_self _) (fun _ => hcs)
      split at h
      · rename_i x hx
        cases h
        split at hx
        · rename_i r1 _
          split at hx
          · rename_i g r2 hg
            split at hx
            · rename_i r3 h3
              cases hx
              exact single _ _ hn (ihL _ _ _ (skip_idem r1) hg (noDollar_of_skip h3 (by decide)))
            · cases hx
          · cases hx
        · cases hx
      · split at h
        · rename_i a r' ha
          cases h
          exact single _ _ hn (atomicL_safe hstop ha hr)
        · cases h
    · intro cs hnd
      rw [ftailT_succ] at hnd ⊢
      cases hc : lexConn (skip cs) with
      | none => exact fun _ ht => nomatch ht
      | some x =>
        obtain ⟨c, r1⟩ := x
        simp only [hc, fseqT] at hnd ⊢
        cases hop : foperand f (skip r1) with
        | none => exact fun _ ht => nomatch ht
        | some y =>
          obtain ⟨ts, r'⟩ := y
          simp only [hop] at hnd ⊢
          exact FTokImg.cons trivial (pair (skip r1) ts r' (skip_idem r1) hop hnd)
    · intro cs t r hcs h hr
      rw [formulaL_succ] at h
      simp only [fseqT] at h
      cases hop : foperand f cs with
      | none => simp [hop] at h
      | some y =>
        obtain ⟨ts, r1⟩ := y
        simp only [hop] at h
        split at h
        · rename_i g hp
          cases h
          exact fpratt_safe (pair cs ts r1 hcs hop hr) hp
        · cases h

theorem formulaTop_safe {cs : List Char} {t : Formula} {r r' : List Char} (h : formulaTop (skip cs) = some (t, r))
    (hdot : skip r = '.' :: r') : Formula.Safe t :=
  (formula_img _).2.2 _ _ _ (skip_idem cs) h (noDollar_of_skip hdot (by decide))

theorem parseTheory_safe {text : String} {t : Theory} (h : parseTheory text = some t) : Theory.Safe t :=
  theoryParser.parse_all Formula.Safe (fun _ _ _ _ h hd => formulaTop_safe h hd) h

theorem Formula.Safe.wf {F : Formula} (h : Formula.Safe F) : Formula.WF F := by
  induction F with
  | atomic a => exact h.1
  | not f ih => exact ih h
  | quant q vs f ih => exact ⟨h.1, h.2.1, ih h.2.2⟩
  | bin c l r ihl ihr => exact ⟨ihl h.1, ihr h.2⟩

theorem parseTheory_shaped {text : String} {t : Theory} (h : parseTheory text = some t) : ∀ g ∈ t, Formula.WF g :=
  fun g hg => (parseTheory_safe h g hg).wf

/-- **C15 for theories, no hypothesis** -/
theorem accepted_theory_roundtrip {text : String} {t : Theory} (h : parseTheory text = some t) :
    parseTheory (printTheory t) = some t :=
  parseTheory_printTheory t (parseTheory_safe h)

theorem nameOptL_img (r1 : List Char) : (nameOptL r1).1 = "" ∨ SymName (nameOptL r1).1.toList := by
  unfold nameOptL
  split
  · split
    · rename_i n b hn
      split
      · right; simp only [String.toList_ofList]; exact lexSymConst_shape hn
      · left; rfl
    · left; rfl
  · left; rfl

theorem annotatedL_safe {cs : List Char} {a : SAnn} {r r' : List Char} (h : annotatedL cs = some (a, r))
    (hdot : skip r = '.' :: r') : SAnn.Safe a := by
  unfold annotatedL at h
  split at h
  · cases h
  · rename_i role r0 _
    simp only at h
    split at h
    · rename_i r3 _
      split at h
      · rename_i f r4 hf
        injection h with h; injection h with h1 h2; subst h1; subst h2
        exact ⟨nameOptL_img _, formulaTop_safe hf hdot⟩
      · cases h
    · cases h

theorem parseSpecification_safe {text : String} {s : Specification} (h : parseSpecification text = some s) :
    Specification.Safe s :=
  specParser.parse_all SAnn.Safe (fun _ _ _ _ h hd => annotatedL_safe h hd) h

/-- **C15 for specifications, no hypothesis** -/
theorem accepted_specification_roundtrip {text : String} {s : Specification} (h : parseSpecification text = some s) :
    parseSpecification (printSpecification s) = some s :=
  parseSpecification_printSpecification s (parseSpecification_safe h)

theorem predicateL_shape {cs : List Char} {p : Pred} {r : List Char} (h : predicateL cs = some (p, r)) :
    SymName p.symbol.toList := by
  unfold predicateL at h
  split at h
  · rename_i s r0 hs
    split at h
    · split at h
      · cases h
        rw [String.toList_ofList]; exact lexSymConst_shape hs
      · cases h
    · cases h
  · cases h

theorem predicateL_map {C : Pred → UGEntry} {r0 : List Char} {x : UGEntry × List Char}
    (h : (predicateL r0).map (fun (p, r') => (C p, r')) = some x) : ∃ p, x.1 = C p ∧ SymName p.symbol.toList := by
  cases hp : predicateL r0 with
  | none => rw [hp] at h; cases h
  | some y =>
    rw [hp] at h
    cases h
    exact ⟨y.1, rfl, predicateL_shape hp⟩

theorem ugEntryL_safe {cs : List Char} {e : UGEntry} {r r' : List Char} (h : ugEntryL cs = some (e, r))
    (hdot : skip r = '.' :: r') : UGEntry.Safe e := by
  simp only [ugEntryL] at h
  split at h
  · rename_i x hx
    cases h
    split at hx
    · obtain ⟨p, e, hp⟩ := predicateL_map hx
      cases e; exact hp
    · cases hx
  · split at h
    · rename_i x hx
      cases h
      split at hx
      · obtain ⟨p, e, hp⟩ := predicateL_map hx
        cases e; exact hp
      · cases hx
    · split at h
      · rename_i x hx
        cases h
        split at hx
        · split at hx
          · rename_i n r1 hn
            have hs : ∀ s, UGEntry.Safe (.placeholder (String.ofList n) s) := fun _ => by
              show SymName (String.ofList n).toList
              rw [String.toList_ofList]; exact lexSymConst_shape hn
            split at hx
            · split at hx
              · cases hx; exact hs _
              · cases hx; exact hs _
            · cases hx; exact hs _
          · cases hx
        · cases hx
      · cases ha : annotatedL cs with
        | none => rw [ha] at h; cases h
        | some y =>
          rw [ha] at h
          cases h
          exact annotatedL_safe ha hdot

theorem parseUserGuide_safe {text : String} {u : UserGuide} (h : parseUserGuide text = some u) : UserGuide.Safe u :=
  ugParser.parse_all UGEntry.Safe (fun _ _ _ _ h hd => ugEntryL_safe h hd) h

/-- **C15 for user guides, no hypothesis** -/
theorem accepted_user_guide_roundtrip {text : String} {u : UserGuide} (h : parseUserGuide text = some u) :
    parseUserGuide (printUserGuide u) = some u :=
  parseUserGuide_printUserGuide u (parseUserGuide_safe h)

end Anthem.Fol
