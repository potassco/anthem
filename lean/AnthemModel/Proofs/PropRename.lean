/-
  `rename_conflicting_symbols` (as of fix 611037e): a propositional predicate whose name is also a symbolic
  constant of the problem is renamed to a free name, symbolic constants keep their names. The renamed problem
  is refuted by `J` exactly when the original is refuted by `J` read through the renaming, which gives the C03
  statement without the hypothesis that no name clashes.
-/
import AnthemModel.Proofs.StrongSem
namespace Anthem
open Asp

def propReading (m : List (String × String)) (T : PredI) : PredI :=
  fun q a => if a.isEmpty then
      match m.find? (fun e => e.1 = q) with
      | some e => T e.2 []
      | none => T q a
    else T q a

/-- only an atom without arguments is looked up, by the renaming and by the reading alike -/
theorem propReading_renameProp (m : List (String × String)) (T : PredI) (a : Atom) (f : GTerm → Dom) :
    T (renameProp m a).pred ((renameProp m a).args.map f) = propReading m T a.pred (a.args.map f) := by
  obtain ⟨p, args⟩ := a
  cases args with
  | cons x xs => rfl
  | nil =>
    unfold renameProp propReading
    dsimp only [List.isEmpty_nil, List.map_nil]
    cases m.find? (fun e => e.1 = p) <;> rfl

theorem sat_renameProps (m : List (String × String)) (T : PredI) (fc : FcI) : ∀ (F : Formula) (ρ : Asg),
    sat ⟨T, fc⟩ (F.renameProps m) ρ ↔ sat ⟨propReading m T, fc⟩ F ρ := by
  intro F
  induction F with
  | atomic a =>
    intro ρ
    cases a with
    | tru | fls | cmp _ _ => exact Iff.rfl
    | atom a => exact Iff.of_eq (propReading_renameProp m T a _)
  | not f ih => exact fun ρ => not_congr (ih ρ)
  | bin c l r ihl ihr =>
    intro ρ
    cases c with
    | and => exact and_congr (ihl ρ) (ihr ρ)
    | or => exact or_congr (ihl ρ) (ihr ρ)
    | imp => exact imp_congr (ihl ρ) (ihr ρ)
    | rimp => exact imp_congr (ihr ρ) (ihl ρ)
    | iff => exact iff_congr (ihl ρ) (ihr ρ)
  | quant q vs f ih =>
    intro ρ
    cases q
    · simp only [Formula.renameProps, sat]; exact bindAll_congr (fun τ => ih τ) ρ
    · simp only [Formula.renameProps, sat]; exact bindEx_congr (fun τ => ih τ) ρ

theorem propName_inj (s : String) {i j : Nat} (h : propName s i = propName s j) : i = j := by
  unfold propName at h
  have hne : ∀ n : Nat, s ++ "_p" ≠ s ++ "_p" ++ toString n := by
    intro n hn
    have h1 : s ++ "_p" ++ "" = s ++ "_p" ++ toString n := by simpa using hn
    exact Nat.repr_ne_empty ((String.append_right_inj _).mp h1).symm
  by_cases hi : i = 0 <;> by_cases hj : j = 0
  · rw [hi, hj]
  · simp only [hi, hj, if_true, if_false] at h; exact absurd h (hne j)
  · simp only [hi, hj, if_true, if_false] at h; exact absurd h.symm (hne i)
  · simp only [hi, hj, if_false] at h
    exact Nat.repr_injective ((String.append_right_inj _).mp h)

theorem findPropName_spec (occ : List String) (s : String) :
    ∀ (fuel i : Nat), (∃ j, i ≤ j ∧ j < i + fuel ∧ propName s j ∉ occ) →
      propName s (findPropName occ s fuel i) ∉ occ := by
  intro fuel
  induction fuel with
  | zero => intro i ⟨j, h1, h2, _⟩; omega
  | succ fuel ih =>
    intro i ⟨j, h1, h2, h3⟩
    simp only [findPropName]
    split
    · rename_i hmem
      have hne : j ≠ i := fun e => h3 (e ▸ hmem)
      exact ih (i + 1) ⟨j, by omega, by omega, h3⟩
    · rename_i hmem
      exact hmem

theorem exists_free_propName (occ : List String) (s : String) :
    ∃ j, 0 ≤ j ∧ j < 0 + (occ.length + 1) ∧ propName s j ∉ occ := by
  obtain ⟨j, h1, h2, h3⟩ := exists_not_mem_of_injective (propName s) (fun _ _ => propName_inj s) occ 0
  exact ⟨j, h1, by omega, h3⟩

structure PropInv (occ0 : List String) (acc : List String × List (String × String)) : Prop where
  grows : ∀ q ∈ occ0, q ∈ acc.1
  occupied : ∀ x ∈ acc.2, x.2 ∈ acc.1
  fresh : ∀ x ∈ acc.2, x.2 ∉ occ0
  distinct : acc.2.Pairwise fun x y => x.2 ≠ y.2

theorem propRenameStep_inv (occ0 : List String) (acc : List String × List (String × String)) (s : String)
    (h : PropInv occ0 acc) : PropInv occ0 (propRenameStep acc s) := by
  have hfree := findPropName_spec acc.1 s _ 0 (exists_free_propName acc.1 s)
  generalize hn : propName s (findPropName acc.1 s (acc.1.length + 1) 0) = n at hfree
  have hstep : propRenameStep acc s = (acc.1 ++ [n], acc.2 ++ [(s, n)]) := by rw [← hn]; rfl
  rw [hstep]
  refine ⟨fun q hq => List.mem_append_left _ (h.grows q hq), ?_, ?_, ?_⟩
  · intro x hx
    rcases List.mem_append.mp hx with hx | hx
    · exact List.mem_append_left _ (h.occupied x hx)
    · cases List.mem_singleton.mp hx
      exact List.mem_append_right _ (List.mem_singleton.mpr rfl)
  · intro x hx
    rcases List.mem_append.mp hx with hx | hx
    · exact h.fresh x hx
    · cases List.mem_singleton.mp hx
      exact fun hin => hfree (h.grows _ hin)
  · refine List.pairwise_append.mpr ⟨h.distinct, List.pairwise_singleton _ _, fun x hx y hy => ?_⟩
    cases List.mem_singleton.mp hy
    exact fun (heq : x.2 = n) => hfree (heq ▸ h.occupied x hx)

theorem propFold_inv (occ0 : List String) (ss : List String) :
    ∀ acc, PropInv occ0 acc → PropInv occ0 (ss.foldl propRenameStep acc) := by
  induction ss with
  | nil => intro acc h; exact h
  | cons s ss ih => intro acc h; exact ih _ (propRenameStep_inv occ0 acc s h)

theorem propRenaming_fresh (p : Problem) :
    (∀ x ∈ p.propRenaming, x.2 ∉ p.occupiedNames) ∧
    p.propRenaming.Pairwise fun x y => x.2 ≠ y.2 := by
  have h := propFold_inv p.occupiedNames
    ((p.preds.filter fun q => q.arity = 0 && q.symbol ∈ p.symbols).map (·.symbol)) (p.occupiedNames, [])
    ⟨fun _ h => h, fun _ h => absurd h List.not_mem_nil, fun _ h => absurd h List.not_mem_nil, List.Pairwise.nil⟩
  exact ⟨h.fresh, h.distinct⟩

theorem direction_refutes_renamed (J : Interp) (ρ : Asg) (name : String) (tr ax cj : Theory) (axPre cjPre : String)
    (d : Decomposition) :
    (∃ P ∈ (directionProblem name tr ax cj axPre cjPre).decompose d, Refutes J ρ P) ↔
      (∀ F ∈ tr, sat ⟨propReading (directionProblem0 name tr ax cj axPre cjPre).propRenaming J.pred, J.fc⟩ F ρ) ∧
      (∀ F ∈ ax, sat ⟨propReading (directionProblem0 name tr ax cj axPre cjPre).propRenaming J.pred, J.fc⟩ F ρ) ∧
      ¬ ∀ G ∈ cj, sat ⟨propReading (directionProblem0 name tr ax cj axPre cjPre).propRenaming J.pred, J.fc⟩ G ρ := by
  obtain ⟨h1, h2⟩ := direction_role_forall name tr ax cj axPre cjPre (fun F => sat J F ρ)
  have hread : ∀ F, sat J (F.renameProps (directionProblem0 name tr ax cj axPre cjPre).propRenaming) ρ ↔
      sat ⟨propReading (directionProblem0 name tr ax cj axPre cjPre).propRenaming J.pred, J.fc⟩ F ρ :=
    fun F => sat_renameProps _ J.pred J.fc F ρ
  rw [decompose_refutes, refutes_iff, h1, h2, and_assoc]
  simp only [hread]

/-- **C03 without the hypothesis that no name clashes** (both representations, all flags). For the two
    processed theories `l`, `r` of the task: some emitted problem is refuted by the classical
    interpretation `J` iff, in a requested direction, the here-and-there interpretation that `J` - read
    through the renaming of that direction's problem - merges has `H ⊆ T` on the programs' predicates and
    satisfies one program but not the other. Without a clash the renaming is empty and the reading is `J`
    itself (`strong_refutes`). -/
theorem strong_refutes_renamed (t : StrongTask) (fuel : Nat) (ps : List Problem)
    (h : strongProblems t fuel = some ps)
    (hpl : globalsPanic t.left = false) (hpr : globalsPanic t.right = false) :
    ∃ l r, processTheory t fuel t.left = some l ∧ processTheory t fuel t.right = some r ∧
      ∀ (J : Interp) (MF MB : HTI),
        C05.Merges ⟨propReading (directionProblem0 "forward" (transitionAxioms t) l r "left_" "right_").propRenaming
          J.pred, J.fc⟩ MF →
        C05.Merges ⟨propReading (directionProblem0 "backward" (transitionAxioms t) r l "right_" "left_").propRenaming
          J.pred, J.fc⟩ MB →
        ((t.simplify = true ∨ t.rep = .mu) → MF.Sub ∧ MB.Sub) → ∀ ρ : Asg,
        ((∃ P ∈ ps, Refutes J ρ P) ↔
          ((t.direction = .universal ∨ t.direction = .forward) ∧
              SubOn MF (ext t.left.preds t.right.preds) ∧
              progSat MF .here t.left ∧ ¬ progSat MF .here t.right) ∨
          ((t.direction = .universal ∨ t.direction = .backward) ∧
              SubOn MB (ext t.left.preds t.right.preds) ∧
              progSat MB .here t.right ∧ ¬ progSat MB .here t.left)) := by
  obtain ⟨l, r, hl, hr, href⟩ := strongProblems_refutes h
  refine ⟨l, r, hl, hr, fun J MF MB hmF hmB hsub ρ => ?_⟩
  rw [href, direction_refutes_renamed, direction_refutes_renamed,
    transitionAxioms_sem hmF, transitionAxioms_sem hmB,
    processTheory_sem t fuel t.left l hl hmF (fun hs => (hsub hs).1) ρ,
    processTheory_sem t fuel t.right r hr hmF (fun hs => (hsub hs).1) ρ,
    processTheory_sem t fuel t.left l hl hmB (fun hs => (hsub hs).2) ρ,
    processTheory_sem t fuel t.right r hr hmB (fun hs => (hsub hs).2) ρ]

end Anthem
