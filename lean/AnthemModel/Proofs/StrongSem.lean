/-
  C03: what the emitted strong-equivalence problems mean. Composes tau* correctness (C01), the
  simplification portfolios (C07), gamma (C05), eq-break and the decompositions (C19).
-/
import AnthemModel.Proofs.TauStarRules
import AnthemModel.Props.C05
import AnthemModel.Props.C07
import AnthemModel.Props.C19
import AnthemModel.Props.C08
import AnthemModel.Model.Strong
namespace Anthem
open Asp

theorem simplifyTheory_some {p : Portfolio} {fuel : Nat} : ∀ {t t' : Theory},
    simplifyTheory p fuel t = some t' →
      t' = t.map fun f => (simplifyWith p .fixpoint fuel f).1 := by
  intro t
  induction t with
  | nil => intro t' h; cases h; rfl
  | cons f fs ih =>
    intro t' h
    simp only [simplifyTheory, List.mapM_cons, Option.bind_eq_bind, Option.bind_eq_some_iff, Option.pure_def,
      Option.some.injEq] at h
    obtain ⟨g, hg, gs, hgs, rfl⟩ := h
    rw [List.map_cons, ← ih hgs]
    split at hg
    · cases hg; rfl
    · cases hg

theorem allTrue_simplify_ht (M : HTI) (hs : M.Sub) (w : World) (ρ : Asg) (fuel : Nat) (t : Theory) :
    (∀ F ∈ t.map (fun f => (simplifyWith .ht .fixpoint fuel f).1), ht M F w ρ) ↔ ∀ F ∈ t, ht M F w ρ := by
  simp only [List.mem_map, forall_exists_index, and_imp, forall_apply_eq_imp_iff₂]
  exact forall_congr' fun F => imp_congr_right fun _ => C07.portfolio_sound_ht .fixpoint fuel F M hs w ρ

theorem allTrue_simplify_classic (J : Interp) (ρ : Asg) (fuel : Nat) (t : Theory) :
    (∀ F ∈ t.map (fun f => (simplifyWith .classic .fixpoint fuel f).1), sat J F ρ) ↔ ∀ F ∈ t, sat J F ρ := by
  simp only [List.mem_map, forall_exists_index, and_imp, forall_apply_eq_imp_iff₂]
  exact forall_congr' fun F => imp_congr_right fun _ => C07.portfolio_sound_classic .fixpoint fuel F J ρ

theorem allTrue_gamma {J : Interp} {M : HTI} (hm : C05.Merges J M) (ρ : Asg) (t : Theory) :
    (∀ F ∈ gammaTheory t, sat J F ρ) ↔ ∀ F ∈ t, ht M F .here ρ := by
  simp only [gammaTheory, List.mem_map, forall_exists_index, and_imp, forall_apply_eq_imp_iff₂]
  exact forall_congr' fun F => imp_congr_right fun _ => (C05.gamma_correct hm F ρ).symm

theorem allTrue_break (J : Interp) (ρ : Asg) (t : Theory) :
    (∀ F ∈ breakEquivalencesTheory t, sat J F ρ) ↔ ∀ F ∈ t, sat J F ρ := by
  simp only [breakEquivalencesTheory, List.mem_flatMap, forall_exists_index, and_imp]
  constructor
  · intro h F hF
    exact (break_equiv J F ρ).mp fun G hG => h G F hF hG
  · intro h G F hF hG
    exact (break_equiv J F ρ).mpr (h F hF) G hG

theorem processTheory_sem (t : StrongTask) (fuel : Nat) (prog : Program)
    (th : Theory) (h : processTheory t fuel prog = some th)
    {J : Interp} {M : HTI} (hm : C05.Merges J M)
    (hsub : (t.simplify = true ∨ t.rep = .mu) → M.Sub) (ρ : Asg) :
    (∀ F ∈ th, sat J F ρ) ↔ progSat M .here prog := by
  have htr : (∀ F ∈ translateWith t.rep prog, ht M F .here ρ) ↔ progSat M .here prog := by
    cases hrep : t.rep with
    | mu => exact C08.mu_correct prog rfl M (hsub (Or.inr hrep)) .here ρ
    | tauStar => exact tauStar_correct prog rfl M .here ρ
  have hbreak : ∀ th : Theory, (∀ F ∈ (if t.breakEq = true then breakEquivalencesTheory th else th), sat J F ρ) ↔
      ∀ F ∈ th, sat J F ρ := by
    intro th
    split
    · exact allTrue_break J ρ th
    · exact Iff.rfl
  rw [← htr]
  unfold processTheory at h
  generalize translateWith t.rep prog = th0 at h ⊢
  cases hsimp : t.simplify with
  | false =>
    simp only [hsimp, Bool.false_eq_true, if_false, Option.bind_eq_bind, Option.bind_some] at h
    cases h
    rw [hbreak]
    exact allTrue_gamma hm ρ _
  | true =>
    simp only [hsimp, if_true, Option.bind_eq_bind] at h
    cases h1 : simplifyTheory .ht fuel th0 with
    | none => rw [h1] at h; cases h
    | some t1 =>
      rw [h1, Option.bind_some] at h
      cases h2 : simplifyTheory .classic fuel (gammaTheory t1) with
      | none => rw [h2] at h; cases h
      | some t2 =>
        rw [h2] at h
        cases h
        rw [hbreak, simplifyTheory_some h2, allTrue_simplify_classic, allTrue_gamma hm, simplifyTheory_some h1,
          allTrue_simplify_ht M (hsub (Or.inl hsimp))]

theorem enumerateFrom_map_snd (t : Theory) (k : Nat) :
    (Problem.addTheory.enumerateFrom k t).map (·.2) = t := by
  induction t generalizing k with
  | nil => rfl
  | cons f fs ih => simp [Problem.addTheory.enumerateFrom, ih]

theorem mem_enumerateFrom (t : Theory) (f : Formula) (k : Nat) :
    (∃ i, (i, f) ∈ Problem.addTheory.enumerateFrom k t) ↔ f ∈ t := by
  constructor
  · rintro ⟨i, hi⟩
    exact enumerateFrom_map_snd t k ▸ List.mem_map.mpr ⟨(i, f), hi, rfl⟩
  · intro hf
    rw [← enumerateFrom_map_snd t k] at hf
    obtain ⟨⟨i, g⟩, hi, rfl⟩ := List.mem_map.mp hf
    exact ⟨i, hi⟩

theorem addTheory_role_forall (p : Problem) (t : Theory) (pre : String) (role role' : PRole)
    (Q : Formula → Prop) :
    (∀ a ∈ (p.addTheory t pre role).formulas, a.role = role' → Q a.formula) ↔
      (∀ a ∈ p.formulas, a.role = role' → Q a.formula) ∧ (role = role' → ∀ F ∈ t, Q F) := by
  unfold Problem.addTheory
  simp only [List.mem_append, List.mem_map, Prod.exists]
  constructor
  · intro h
    refine ⟨fun a ha => h a (Or.inl ha), fun e F hF => ?_⟩
    obtain ⟨i, hi⟩ := (mem_enumerateFrom t F 0).mpr hF
    exact h ⟨pre ++ toString i, role, F⟩ (Or.inr ⟨i, F, hi, rfl⟩) e
  · rintro ⟨h1, h2⟩ a (ha | ⟨i, F, hi, rfl⟩) hr
    · exact h1 a ha hr
    · exact h2 hr F ((mem_enumerateFrom t F 0).mp ⟨i, hi⟩)

theorem uniqueNames_role_forall (p : Problem) (role' : PRole) (Q : Formula → Prop) :
    (∀ a ∈ p.uniqueNames.formulas, a.role = role' → Q a.formula) ↔
      (∀ a ∈ p.formulas, a.role = role' → Q a.formula) := by
  unfold Problem.uniqueNames
  simp only [List.mem_map, Prod.exists]
  constructor
  · intro h a ha hr
    obtain ⟨i, hi⟩ := (mem_indexFrom (k := 0)).mp ha
    exact h { a with name := "formula_" ++ toString i ++ "_" ++ a.name } ⟨i, a, hi, rfl⟩ hr
  · rintro h a' ⟨i, a, hi, rfl⟩ hr
    exact h a ((mem_indexFrom (k := 0)).mpr ⟨i, hi⟩) hr

theorem renameConflicting_role_forall (p : Problem) (role' : PRole) (Q : Formula → Prop) :
    (∀ a ∈ p.renameConflictingSymbols.formulas, a.role = role' → Q a.formula) ↔
      (∀ a ∈ p.formulas, a.role = role' → Q (a.formula.renameProps p.propRenaming)) := by
  unfold Problem.renameConflictingSymbols
  simp only [List.mem_map]
  constructor
  · intro h a ha hr
    exact h _ ⟨a, ha, rfl⟩ hr
  · rintro h a' ⟨a, ha, rfl⟩ hr
    exact h a ha hr

theorem direction0_role_forall (name : String) (tr ax cj : Theory) (axPre cjPre : String) (Q : Formula → Prop) :
    ((∀ a ∈ (directionProblem0 name tr ax cj axPre cjPre).formulas, a.role = .axiom → Q a.formula) ↔
      ((∀ F ∈ tr, Q F) ∧ ∀ F ∈ ax, Q F)) ∧
    ((∀ a ∈ (directionProblem0 name tr ax cj axPre cjPre).formulas, a.role = .conjecture → Q a.formula) ↔
      ∀ F ∈ cj, Q F) := by
  simp only [directionProblem0, addTheory_role_forall, List.not_mem_nil, false_implies, implies_true, forall_const,
    true_and, reduceCtorEq, and_true, and_self]

theorem direction_role_forall (name : String) (tr ax cj : Theory) (axPre cjPre : String) (Q : Formula → Prop) :
    ((∀ a ∈ (directionProblem name tr ax cj axPre cjPre).formulas, a.role = .axiom → Q a.formula) ↔
      ((∀ F ∈ tr, Q (F.renameProps (directionProblem0 name tr ax cj axPre cjPre).propRenaming)) ∧
        ∀ F ∈ ax, Q (F.renameProps (directionProblem0 name tr ax cj axPre cjPre).propRenaming))) ∧
    ((∀ a ∈ (directionProblem name tr ax cj axPre cjPre).formulas, a.role = .conjecture → Q a.formula) ↔
      ∀ F ∈ cj, Q (F.renameProps (directionProblem0 name tr ax cj axPre cjPre).propRenaming)) := by
  unfold directionProblem
  simp only [uniqueNames_role_forall, renameConflicting_role_forall]
  exact direction0_role_forall name tr ax cj axPre cjPre
    (fun F => Q (F.renameProps (directionProblem0 name tr ax cj axPre cjPre).propRenaming))

theorem refutes_iff (J : Interp) (ρ : Asg) (p : Problem) :
    Refutes J ρ p ↔ (∀ a ∈ p.formulas, a.role = .axiom → sat J a.formula ρ) ∧
      ¬ ∀ a ∈ p.formulas, a.role = .conjecture → sat J a.formula ρ := by
  refine and_congr_right fun _ => ⟨fun ⟨c, hc, hr, hn⟩ hall => hn (hall c hc hr), fun hn => ?_⟩
  refine Classical.byContradiction fun hne => hn fun a ha hr => ?_
  exact Classical.byContradiction fun hs => hne ⟨a, ha, hr, hs⟩

theorem decompose_refutes (J : Interp) (ρ : Asg) (p : Problem) (d : Decomposition) :
    (∃ P ∈ p.decompose d, Refutes J ρ P) ↔ Refutes J ρ p := by
  have key : (∃ P ∈ p.decompose d, Refutes J ρ P) ↔
      (∀ a ∈ p.axioms, sat J a.formula ρ) ∧ ∃ c ∈ p.conjectures, ¬ sat J c.formula ρ := by
    cases d
    · exact C19.independent_refutes J ρ _
    · exact C19.sequential_refutes J ρ _
  rw [key]
  simp only [Refutes, Problem.axioms, Problem.conjectures, List.mem_filter, decide_eq_true_eq, and_imp, and_assoc]

theorem direction_refutes (J : Interp) (ρ : Asg) (name : String) (tr ax cj : Theory) (axPre cjPre : String)
    (hnc : (directionProblem0 name tr ax cj axPre cjPre).renameConflictingSymbols =
      directionProblem0 name tr ax cj axPre cjPre) (d : Decomposition) :
    (∃ P ∈ (directionProblem name tr ax cj axPre cjPre).decompose d, Refutes J ρ P) ↔
      (∀ F ∈ tr, sat J F ρ) ∧ (∀ F ∈ ax, sat J F ρ) ∧ ¬ ∀ G ∈ cj, sat J G ρ := by
  obtain ⟨h1, h2⟩ := direction0_role_forall name tr ax cj axPre cjPre (fun F => sat J F ρ)
  rw [decompose_refutes, refutes_iff, directionProblem, hnc, uniqueNames_role_forall _ .axiom (fun F => sat J F ρ),
    uniqueNames_role_forall _ .conjecture (fun F => sat J F ρ), h1, h2, and_assoc]

def SubOn (M : HTI) (ps : List Pred) : Prop :=
  ∀ p ∈ ps, ∀ ds : List Dom, ds.length = p.arity → M.h p.symbol ds → M.t p.symbol ds

def xNames (n : Nat) : List String := (List.range' 1 n).map fun i => "X" ++ toString i

theorem xNames_nodup (n : Nat) : (xNames n).Nodup := by
  refine List.Pairwise.map _ (fun a b hab hc => hab ?_) List.nodup_range'
  simp only [String.append_right_inj] at hc
  exact Nat.repr_injective hc

theorem transitionAxiom_sem {J : Interp} {M : HTI} (hm : C05.Merges J M) (p : Pred) (ρ : Asg) :
    sat J (transitionAxiom p) ρ ↔
      ∀ ds : List Dom, ds.length = p.arity → M.h p.symbol ds → M.t p.symbol ds := by
  unfold transitionAxiom
  simp only
  rw [sat_quantify]
  simp only [sat]
  have hargs : (Pred.toFormula p) = .atomic (.atom ⟨p.symbol, (xNames p.arity).map GTerm.var⟩) := by
    simp [Pred.toFormula, xNames, List.map_map]
  have hfv : ∀ v, v ∈ (Pred.toFormula p).here.fv ↔ v ∈ (xNames p.arity).map fun z => (⟨z, .general⟩ : Var) := by
    rw [hargs]
    exact mem_varAtom_vars _ _
  rw [bindAll_perm hfv, bindAll_fresh_general _ (xNames_nodup p.arity)]
  have hlen : (xNames p.arity).length = p.arity := by simp [xNames]
  rw [hlen]
  refine forall_congr' fun ds => imp_congr_right fun hds => ?_
  rw [hargs]
  have hmap : ((xNames p.arity).map GTerm.var).map (GTerm.eval J.fc (assignGen ρ (xNames p.arity) ds)) = ds := by
    rw [List.map_map]
    exact assignGen_map ρ _ ds (xNames_nodup _) (by rw [hlen, hds])
  simp only [Formula.here, Formula.there, prependPred, sat, AtomicF.sat, hmap]
  rw [hm.h, hm.t]

theorem transitionAxioms_sem {J : Interp} {M : HTI} (hm : C05.Merges J M) (t : StrongTask) (ρ : Asg) :
    (∀ F ∈ transitionAxioms t, sat J F ρ) ↔ SubOn M (ext t.left.preds t.right.preds) := by
  unfold transitionAxioms SubOn
  simp only [List.mem_map, forall_exists_index, and_imp, forall_apply_eq_imp_iff₂]
  exact forall_congr' fun p => imp_congr_right fun _ => transitionAxiom_sem hm p ρ

/-- no symbolic constant of the assembled problem equals a 0-ary predicate: `rename_conflicting_symbols`
    leaves the problem unchanged (otherwise the renamed constant denotes a different element of the
    standard domain, and the statement below would be about the renamed programs) -/
def NoSymbolConflict (t : StrongTask) (fuel : Nat) : Prop :=
  ∀ l r, processTheory t fuel t.left = some l → processTheory t fuel t.right = some r →
    (directionProblem0 "forward" (transitionAxioms t) l r "left_" "right_").renameConflictingSymbols =
      directionProblem0 "forward" (transitionAxioms t) l r "left_" "right_" ∧
    (directionProblem0 "backward" (transitionAxioms t) r l "right_" "left_").renameConflictingSymbols =
      directionProblem0 "backward" (transitionAxioms t) r l "right_" "left_"

theorem strongProblems_some {t : StrongTask} {fuel : Nat} {ps : List Problem}
    (h : strongProblems t fuel = some ps) :
    ∃ l r, processTheory t fuel t.left = some l ∧ processTheory t fuel t.right = some r ∧
      ∀ P, P ∈ ps ↔
        ((t.direction = .universal ∨ t.direction = .forward) ∧
          P ∈ (directionProblem "forward" (transitionAxioms t) l r "left_" "right_").decompose t.decomposition) ∨
        ((t.direction = .universal ∨ t.direction = .backward) ∧
          P ∈ (directionProblem "backward" (transitionAxioms t) r l "right_" "left_").decompose t.decomposition) := by
  unfold strongProblems at h
  cases hl : processTheory t fuel t.left with
  | none => rw [hl] at h; cases h
  | some l =>
    cases hr : processTheory t fuel t.right with
    | none => rw [hl, hr] at h; cases h
    | some r =>
      rw [hl, hr] at h
      cases h
      refine ⟨l, r, rfl, rfl, fun P => ?_⟩
      have ite : ∀ {c : Prop} [Decidable c] {p q : Problem}, p ∈ (if c then [q] else []) ↔ c ∧ p = q :=
        fun {c} _ _ _ => by split <;> simp [*]
      simp only [List.mem_flatMap, List.mem_append, ite]
      constructor
      · rintro ⟨p, ⟨hd, rfl⟩ | ⟨hd, rfl⟩, hP⟩
        · exact Or.inl ⟨hd, hP⟩
        · exact Or.inr ⟨hd, hP⟩
      · rintro (⟨hd, hP⟩ | ⟨hd, hP⟩)
        · exact ⟨_, Or.inl ⟨hd, rfl⟩, hP⟩
        · exact ⟨_, Or.inr ⟨hd, rfl⟩, hP⟩

theorem strongProblems_refutes {t : StrongTask} {fuel : Nat} {ps : List Problem}
    (h : strongProblems t fuel = some ps) :
    ∃ l r, processTheory t fuel t.left = some l ∧ processTheory t fuel t.right = some r ∧
      ∀ (J : Interp) (ρ : Asg), (∃ P ∈ ps, Refutes J ρ P) ↔
        ((t.direction = .universal ∨ t.direction = .forward) ∧ ∃ P ∈
          (directionProblem "forward" (transitionAxioms t) l r "left_" "right_").decompose t.decomposition,
          Refutes J ρ P) ∨
        ((t.direction = .universal ∨ t.direction = .backward) ∧ ∃ P ∈
          (directionProblem "backward" (transitionAxioms t) r l "right_" "left_").decompose t.decomposition,
          Refutes J ρ P) := by
  obtain ⟨l, r, hl, hr, hmem⟩ := strongProblems_some h
  refine ⟨l, r, hl, hr, fun J ρ => ?_⟩
  simp only [hmem, or_and_right, exists_or, and_assoc, exists_and_left]

/-- **C03, both directions at once.** Some emitted problem is refuted
    by the classical interpretation `J` that merges `(H,T)` iff `H ⊆ T` on the programs' predicates
    and `(H,T)` satisfies one program but not the other, in a direction the task asks for. -/
theorem strong_refutes (t : StrongTask) (fuel : Nat) (ps : List Problem)
    (h : strongProblems t fuel = some ps)
    (hpl : globalsPanic t.left = false) (hpr : globalsPanic t.right = false)
    (hnc : NoSymbolConflict t fuel)
    {J : Interp} {M : HTI} (hm : C05.Merges J M)
    (hsub : (t.simplify = true ∨ t.rep = .mu) → M.Sub) (ρ : Asg) :
    (∃ P ∈ ps, Refutes J ρ P) ↔
      SubOn M (ext t.left.preds t.right.preds) ∧
      (((t.direction = .universal ∨ t.direction = .forward) ∧
          progSat M .here t.left ∧ ¬ progSat M .here t.right) ∨
       ((t.direction = .universal ∨ t.direction = .backward) ∧
          progSat M .here t.right ∧ ¬ progSat M .here t.left)) := by
  obtain ⟨l, r, hl, hr, href⟩ := strongProblems_refutes h
  obtain ⟨hncf, hncb⟩ := hnc l r hl hr
  rw [href, direction_refutes J ρ _ _ l r _ _ hncf, direction_refutes J ρ _ _ r l _ _ hncb,
    transitionAxioms_sem hm, processTheory_sem t fuel t.left l hl hm hsub ρ,
    processTheory_sem t fuel t.right r hr hm hsub ρ]
  constructor
  · rintro (⟨hd, h1, h2⟩ | ⟨hd, h1, h2⟩)
    · exact ⟨h1, Or.inl ⟨hd, h2⟩⟩
    · exact ⟨h1, Or.inr ⟨hd, h2⟩⟩
  · rintro ⟨h1, ⟨hd, h2⟩ | ⟨hd, h2⟩⟩
    · exact Or.inl ⟨hd, h1, h2⟩
    · exact Or.inr ⟨hd, h1, h2⟩

/-- the transition axioms are axioms of every problem -/
theorem strong_refuted_subOn (t : StrongTask) (fuel : Nat) (ps : List Problem)
    (h : strongProblems t fuel = some ps) (hnc : NoSymbolConflict t fuel)
    {J : Interp} {M : HTI} (hm : C05.Merges J M) (ρ : Asg) (href : ∃ P ∈ ps, Refutes J ρ P) :
    SubOn M (ext t.left.preds t.right.preds) := by
  obtain ⟨l, r, hl, hr, hiff⟩ := strongProblems_refutes h
  obtain ⟨hncf, hncb⟩ := hnc l r hl hr
  rw [hiff, direction_refutes J ρ _ _ l r _ _ hncf, direction_refutes J ρ _ _ r l _ _ hncb,
    transitionAxioms_sem hm] at href
  rcases href with ⟨_, h1, _⟩ | ⟨_, h1, _⟩ <;> exact h1

end Anthem
