/-
  Specification level of the target-language round trip: annotated formulas
  (`role(direction)[name]: formula`) and `parseSpecification (printSpecification s) = some s`.
-/
import AnthemModel.Proofs.FolTheoryRT
namespace Anthem.Fol
open Anthem.Asp (isWs skip skipAux stripPrefix isIdChar SymName NoId Solid StartsSolid
  skip_cons_solid skip_of_startsSolid skip_space skip_newline parenLL)

def roleL (r : SRole) : List Char := r.print.toList

def dirL : Direction → List Char
  | .universal => []
  | .forward => "(forward)".toList
  | .backward => "(backward)".toList

def nameL (n : String) : List Char := if n.isEmpty then [] else '[' :: (n.toList ++ [']'])

def SAnn.printL (a : SAnn) : List Char :=
  roleL a.role ++ (dirL a.direction ++ (nameL a.name ++ ':' :: ' ' :: Formula.printL a.formula))

theorem dir_toList (d : Direction) :
    (match d with | .universal => "" | .forward => "(forward)" | .backward => "(backward)").toList = dirL d := by
  cases d
  · show "".toList = []
    simp
  · rfl
  · rfl

theorem name_toList (n : String) : (if n.isEmpty then "" else "[" ++ n ++ "]").toList = nameL n := by
  unfold nameL
  split <;> simp [String.toList_append]

theorem colon_toList : ": ".toList = [':', ' '] := by simp

theorem SAnn.print_toList (a : SAnn) : a.print.toList = SAnn.printL a := by
  simp only [SAnn.print, SAnn.printL, String.toList_append, Formula.print_toList, roleL, List.append_assoc,
      name_toList, colon_toList, List.cons_append, List.nil_append]
  congr 1
  cases hd : a.direction
  · show "".toList ++ _ = [] ++ _
    simp
  · rfl
  · rfl

def SAnn.Safe (a : SAnn) : Prop := (a.name = "" ∨ SymName a.name.toList) ∧ Formula.Safe a.formula

theorem lexRole_print (r : SRole) (X : List Char) : lexRole (roleL r ++ X) = some (r, X) := by
  cases r <;> simp [roleL, SRole.print, lexRole, stripPrefix]

def AfterDir (X : List Char) : Prop := (∃ Y, X = '[' :: Y) ∨ (∃ Y, X = ':' :: Y)

theorem dirL_forward : dirL .forward = ['(', 'f', 'o', 'r', 'w', 'a', 'r', 'd', ')'] := by decide +kernel
theorem dirL_backward : dirL .backward = ['(', 'b', 'a', 'c', 'k', 'w', 'a', 'r', 'd', ')'] := by decide +kernel

theorem dirOptL_print (d : Direction) (X : List Char) (hX : AfterDir X) : dirOptL (dirL d ++ X) = (d, X) := by
  cases d with
  | universal =>
    rcases hX with ⟨Y, rfl⟩ | ⟨Y, rfl⟩
    · show dirOptL ('[' :: Y) = _
      rw [dirOptL, skip_cons_solid Y ⟨by decide, by decide⟩]
      rfl
    · show dirOptL (':' :: Y) = _
      rw [dirOptL, skip_cons_solid Y ⟨by decide, by decide⟩]
      rfl
  | forward =>
    have : lexDirection ('f' :: 'o' :: 'r' :: 'w' :: 'a' :: 'r' :: 'd' :: ')' :: X) = some (.forward, ')' :: X) := by
      simp [lexDirection, stripPrefix]
    simp only [dirL_forward, List.cons_append, List.nil_append, dirOptL,
      skip_cons_solid _ (show Solid '(' from ⟨by decide, by decide⟩),
      skip_cons_solid _ (show Solid 'f' from ⟨by decide, by decide⟩), this,
      skip_cons_solid X (show Solid ')' from ⟨by decide, by decide⟩)]
  | backward =>
    have : lexDirection ('b' :: 'a' :: 'c' :: 'k' :: 'w' :: 'a' :: 'r' :: 'd' :: ')' :: X) = some (.backward, ')' :: X) := by
      simp [lexDirection, stripPrefix]
    simp only [dirL_backward, List.cons_append, List.nil_append, dirOptL,
      skip_cons_solid _ (show Solid '(' from ⟨by decide, by decide⟩),
      skip_cons_solid _ (show Solid 'b' from ⟨by decide, by decide⟩), this,
      skip_cons_solid X (show Solid ')' from ⟨by decide, by decide⟩)]

theorem nameOptL_print (n : String) (hn : n = "" ∨ SymName n.toList) (Y : List Char) :
    nameOptL (nameL n ++ ':' :: Y) = (n, ':' :: Y) := by
  rcases hn with hempty | hsym
  · have hnl : nameL n = [] := by
      have : n.isEmpty = true := String.isEmpty_iff.mpr hempty
      simp only [nameL, this, if_true]
    rw [hnl, hempty]
    simp only [List.nil_append, nameOptL, skip_cons_solid Y (show Solid ':' from ⟨by decide, by decide⟩)]
    rfl
  · have hne : n.isEmpty = false := by
      rw [String.isEmpty_eq_false_iff]; intro e; subst e
      rcases hsym with ⟨c, w, h, _⟩ | ⟨c, w, h, _⟩ <;> cases h
    have hnl : nameL n ++ ':' :: Y = '[' :: (n.toList ++ ']' :: ':' :: Y) := by simp [nameL, hne]
    rw [hnl]
    simp only [nameOptL, skip_cons_solid _ (show Solid '[' from ⟨by decide, by decide⟩),
      skip_of_startsSolid (hsym.startsSolid.append _),
      lexSymConst_append _ _ hsym ⟨']', ':' :: Y, rfl, by decide⟩,
      skip_cons_solid _ (show Solid ']' from ⟨by decide, by decide⟩), String.ofList_toList]

theorem nameL_afterDir (n : String) (Y : List Char) : AfterDir (nameL n ++ ':' :: Y) := by
  unfold nameL
  split
  · right; exact ⟨Y, rfl⟩
  · left; exact ⟨_, rfl⟩

theorem annotatedL_printL (a : SAnn) (ha : SAnn.Safe a) (rest : List Char) (hr : AtomicFollow rest)
    (hstop : lexConn (skip rest) = none) : annotatedL (SAnn.printL a ++ rest) = some (a, rest) := by
  have htop := formulaTop_printL a.formula ha.2 rest hr hstop
  have hsF := skip_of_startsSolid ((Formula.printL_startsSolid a.formula ha.2).append rest)
  have e : SAnn.printL a ++ rest =
      roleL a.role ++ (dirL a.direction ++ (nameL a.name ++ ':' :: (' ' :: (Formula.printL a.formula ++ rest)))) := by
    simp [SAnn.printL]
  rw [e]
  simp only [annotatedL, lexRole_print, dirOptL_print _ _ (nameL_afterDir _ _), nameOptL_print _ ha.1,
    skip_cons_solid _ (show Solid ':' from ⟨by decide, by decide⟩), skip_space, hsF, htop]

def Specification.Safe (s : Specification) : Prop := ∀ a ∈ s, SAnn.Safe a

/-- `StartsSolid` as a test, so that it can be evaluated on a literal -/
def solidHead : List Char → Bool
  | c :: _ => !isWs c && c != '%'
  | [] => false

theorem startsSolid_of_solidHead {l : List Char} (h : solidHead l = true) : StartsSolid l := by
  cases l with
  | nil => cases h
  | cons c r =>
    simp only [solidHead, Bool.and_eq_true, Bool.not_eq_true', bne_iff_ne] at h
    exact ⟨c, r, rfl, h.1, h.2⟩

theorem roleL_startsSolid (r : SRole) : StartsSolid (roleL r) :=
  startsSolid_of_solidHead (by cases r <;> decide +kernel)

theorem SAnn.printL_startsSolid (a : SAnn) : StartsSolid (SAnn.printL a) :=
  (roleL_startsSolid a.role).append _

theorem annotatedL_nil : annotatedL [] = none := by decide +kernel

theorem specParser : DotParser annotatedL annotatedDot parseSpecification where
  zero _ := rfl
  miss n cs h := by simp only [annotatedDot, h]
  dot n cs a r r' h h' := by simp only [annotatedDot, h, h']
  stop n cs a r h h' := by simp only [annotatedDot, h]
  eoi s l := by
    simp only [parseSpecification]
    split
    · next h => simp only [Option.some.injEq, h, and_true]
    · next h => exact ⟨nofun, fun e => absurd e.2 h⟩

theorem parseSpecification_printSpecification (s : Specification) (hs : Specification.Safe s) :
    parseSpecification (printSpecification s) = some s := by
  refine specParser.parse_print SAnn.Safe SAnn.print annotatedL_nil (fun a _ => ?_) (fun a ha Z => ?_) s hs
  · rw [SAnn.print_toList]; exact SAnn.printL_startsSolid a
  · rw [SAnn.print_toList]; exact annotatedL_printL a ha _ (atomicFollow_dot Z) (lexConn_dot Z)

end Anthem.Fol
