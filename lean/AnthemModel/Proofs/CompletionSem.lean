/-
  C04, formula level: what `completion` builds from the tau* theory of a program. A tau* formula is a
  closed implication under at most one universal quantifier, so `components` succeeds; `collect` groups the
  partial definitions by head atom; a completed definition means `DefHolds`; hence `completion_tight`.
-/
import AnthemModel.Proofs.Fages
import AnthemModel.Proofs.RewritesFV
import AnthemModel.Proofs.SubstFull
import AnthemModel.Proofs.NaturalSem
import AnthemModel.Model.Completion
namespace Anthem
open Asp

theorem FV_cmp1 {l t : GTerm} {r : Rel} {v : Var} : (cmp1 l r t).FV v ↔ v ∈ l.vars ∨ v ∈ t.vars := by
  simp only [cmp1, Formula.FV, mem_cmp_vars, List.mem_singleton, exists_eq_left]

theorem FV_cmp1_toTerm {z : Var} {t : GTerm} {r : Rel} {v : Var} :
    (cmp1 z.toTerm r t).FV v ↔ v = z ∨ v ∈ t.vars := by
  rw [FV_cmp1, toTerm_vars, List.mem_singleton]

theorem FV_totalFunction {vi vj : Formula} {op : IOp} {i j : String} {z v : Var}
    (h : (totalFunction vi vj op i j z).FV v) :
    v ≠ ⟨i, .integer⟩ ∧ v ≠ ⟨j, .integer⟩ ∧ (v = z ∨ vi.FV v ∨ vj.FV v) := by
  simp only [totalFunction, Formula.FV, FV_cmp1_toTerm, GTerm.vars, ITerm.vars, mem_ext,
    List.mem_cons, List.not_mem_nil, or_false, not_or] at h
  obtain ⟨h, hi, hj⟩ := h
  simp only [hi, hj, or_false, or_assoc] at h
  exact ⟨hi, hj, h⟩

theorem FV_intervalFormula {vi vj : Formula} {i j k : String} {z v : Var}
    (h : (intervalFormula vi vj i j k z).FV v) :
    v ≠ ⟨i, .integer⟩ ∧ v ≠ ⟨j, .integer⟩ ∧ (v = z ∨ vi.FV v ∨ vj.FV v) := by
  simp only [intervalFormula, Formula.FV, FV_cmp1_toTerm, mem_cmp_vars, GTerm.vars, ITerm.vars,
    List.mem_cons, List.not_mem_nil, or_false, not_or, exists_eq_or_imp, exists_eq_left] at h
  obtain ⟨h, hi, hj, hk⟩ := h
  simp only [hi, hj, hk, or_false, or_self] at h
  exact ⟨hi, hj, h.elim (fun h => Or.inr h) Or.inl⟩

theorem FV_partialFunction {vi vj : Formula} {useQ : Bool} {i j : String} {z v : Var}
    (h : (partialFunction vi vj useQ i j z).FV v) :
    v ≠ ⟨i, .integer⟩ ∧ v ≠ ⟨j, .integer⟩ ∧ (v = z ∨ vi.FV v ∨ vj.FV v) := by
  simp only [partialFunction] at h
  generalize (chooseFresh _ "Q" 1).headD "Q" = q at h
  generalize (chooseFresh _ "R" 1).headD "R" = r at h
  simp only [Formula.FV, FV_cmp1_toTerm] at h
  simp only [FV_cmp1, GTerm.vars, ITerm.vars, mem_ext,
    List.mem_cons, List.not_mem_nil, or_false, not_or] at h
  obtain ⟨h, hi, hj, hq, hr⟩ := h
  simp only [hi, hj, hq, hr, or_false, false_or, or_self] at h
  rcases h with h | h | h
  · exact ⟨hi, hj, Or.inr h⟩
  · exact ⟨hi, hj, Or.inl h⟩
  · -- `v` is `Q` or `R` (by `useQ`), which `hq`, `hr` exclude
    split at h <;> contradiction

def GenIn (names : List String) (v : Var) : Prop := v.sort = .general ∧ v.name ∈ names

theorem GenIn.mono {a b : List String} {v : Var} (h : GenIn a v) (hab : ∀ x ∈ a, x ∈ b) : GenIn b v :=
  ⟨h.1, hab _ h.2⟩

theorem genIn_iff_mem_map {names : List String} {v : Var} :
    GenIn names v ↔ v ∈ names.map fun z => (⟨z, .general⟩ : Var) := by
  obtain ⟨n, s⟩ := v
  simp only [GenIn, List.mem_map, Var.mk.injEq]
  constructor
  · rintro ⟨rfl, hn⟩; exact ⟨n, hn, rfl, rfl⟩
  · rintro ⟨_, hn, rfl, rfl⟩; exact ⟨rfl, hn⟩

theorem genIn_mem_sortedGeneral {names : List String} {v : Var} (h : GenIn names v) : v ∈ sortedGeneral names := by
  obtain ⟨x, hx, e⟩ := List.mem_map.mp (genIn_iff_mem_map.mp h)
  exact mem_sortedGeneral.mpr ⟨x, hx, e.symm⟩

theorem preToGTerm_vars (p : Pre) : (preToGTerm p).vars = [] := by
  cases p <;> rfl

theorem val_FV : ∀ (t : Term) (z v : Var), (val t z).FV v → v = z ∨ GenIn t.vars v := by
  intro t
  induction t with
  | pre p =>
    intro z v h
    rw [val, FV_cmp1_toTerm, preToGTerm_vars] at h
    exact h.imp_right fun h => nomatch h
  | var x =>
    intro z v h
    rw [val, FV_cmp1_toTerm] at h
    exact h.imp_right fun h => by cases List.mem_singleton.mp h; exact ⟨rfl, List.mem_singleton.mpr rfl⟩
  | neg a ih =>
    intro z v h
    obtain ⟨hi, hj, h | h | h⟩ := FV_totalFunction h
    · exact Or.inl h
    · exact absurd ((FV_cmp1.mp h).elim List.mem_singleton.mp fun h => nomatch h) hi
    · exact (ih _ v h).imp_left fun e => absurd e hj
  | bin op l r ihl ihr =>
    intro z v h
    have step : ∀ {i j : String}, v ≠ ⟨i, .integer⟩ ∧ v ≠ ⟨j, .integer⟩ ∧
        (v = z ∨ (val l ⟨i, .integer⟩).FV v ∨ (val r ⟨j, .integer⟩).FV v) →
        v = z ∨ GenIn (Term.bin op l r).vars v := by
      rintro i j ⟨hi, hj, h | h | h⟩
      · exact Or.inl h
      · exact Or.inr (((ihl _ v h).resolve_left hi).mono fun x hx => mem_ext.mpr (Or.inl hx))
      · exact Or.inr (((ihr _ v h).resolve_left hj).mono fun x hx => mem_ext.mpr (Or.inr hx))
    cases op
    · exact step (FV_totalFunction h)
    · exact step (FV_totalFunction h)
    · exact step (FV_totalFunction h)
    · exact step (FV_partialFunction h)
    · exact step (FV_partialFunction h)
    · exact step (FV_intervalFormula h)

theorem FV_signed {s : Sign} {A : Formula} {v : Var} (h : (signed s A).FV v) : A.FV v := by
  cases s <;> exact h

theorem FV_atom_vars {p : String} {zs : List String} {v : Var}
    (h : (Formula.atomic (.atom ⟨p, zs.map GTerm.var⟩)).FV v) : GenIn zs v :=
  genIn_iff_mem_map.mpr ((mem_varAtom_vars p zs v).mp h)

theorem valsConj_FV {args : List Term} {zs : List String} {v : Var}
    (h : (conjoin ((args.zip zs).map fun (t, z) => val t ⟨z, .general⟩)).FV v) :
    GenIn zs v ∨ ∃ t ∈ args, GenIn t.vars v := by
  obtain ⟨f, hf, hv⟩ := conjoin_FV.mp h
  obtain ⟨⟨t, z⟩, hm, rfl⟩ := List.mem_map.mp hf
  rcases val_FV t _ v hv with rfl | hg
  · exact Or.inl ⟨rfl, (List.of_mem_zip hm).2⟩
  · exact Or.inr ⟨t, (List.of_mem_zip hm).1, hg⟩

theorem tauB_FV (f : BodyAtom) (v : Var) (h : (tauB f).FV v) : GenIn f.vars v := by
  cases f with
  | cmp rel l r =>
    obtain ⟨(h | h) | h, h2⟩ := h
    · exact ((val_FV l _ v h).resolve_left fun e => h2 (e ▸ List.mem_cons_self)).mono
        fun x hx => mem_ext.mpr (Or.inl hx)
    · exact ((val_FV r _ v h).resolve_left fun e => h2 (e ▸ List.mem_cons_of_mem _ List.mem_cons_self)).mono
        fun x hx => mem_ext.mpr (Or.inr hx)
    · rcases FV_cmp1.mp h with h | h <;> cases List.mem_singleton.mp h
      · exact absurd List.mem_cons_self h2
      · exact absurd (List.mem_cons_of_mem _ List.mem_cons_self) h2
  | lit l =>
    obtain ⟨s, a⟩ := l
    unfold tauB at h
    simp only at h
    split at h
    · obtain ⟨h1, h2⟩ := h
      have hnz := mt genIn_iff_mem_map.mp h2
      rcases h1 with h1 | h1
      · rcases valsConj_FV h1 with hg | ⟨t, ht, hg⟩
        · exact absurd hg hnz
        · exact hg.mono fun x hx => mem_atom_vars.mpr ⟨t, ht, hx⟩
      · exact absurd (FV_atom_vars (FV_signed h1)) hnz
    · exact nomatch (FV_atom_vars (zs := []) (FV_signed h)).2

theorem tauBody_FV (b : List BodyAtom) (v : Var) (h : (tauBody b).FV v) : GenIn (bodyVars b) v := by
  obtain ⟨F, hF, hv⟩ := conjoin_FV.mp h
  obtain ⟨f, hf, rfl⟩ := List.mem_map.mp hF
  exact (tauB_FV f v hv).mono fun x hx => mem_bodyVars.mpr ⟨f, hf, hx⟩

/-! `headRuleFormula` (Proofs/TauStarRules) is the whole formula of a rule with an atom head, as the proof
    of its meaning wants it; here the same formula is cut into the pieces `splitImplication` returns, and
    `tauStarRule_shape` reconciles the two. -/

def tauHeadAtom (a : Asp.Atom) (globals : List String) : Anthem.Atom :=
  ⟨a.pred, (globals.take a.args.length).map GTerm.var⟩

def tauRuleBody (choice : Bool) (a : Asp.Atom) (r : Rule) (globals : List String) : Formula :=
  let core :=
    if a.args.length > 0 then
      Formula.bin .and (conjoin ((a.args.zip (globals.take a.args.length)).map fun (t, v) => val t ⟨v, .general⟩))
        (tauBody r.body)
    else tauBody r.body
  if choice then .bin .and core (.not (.not (.atomic (.atom (tauHeadAtom a globals))))) else core

def ruleComponent (r : Rule) (globals : List String) : Component :=
  match r.head with
  | .falsity => .constraint (.bin .imp (tauBody r.body) .fls)
  | .basic a => .partialDef (tauRuleBody false a r globals) (tauHeadAtom a globals)
  | .choice a => .partialDef (tauRuleBody true a r globals) (tauHeadAtom a globals)

def ruleMatrix (r : Rule) (globals : List String) : Formula :=
  match r.head with
  | .falsity => .bin .imp (tauBody r.body) .fls
  | .basic a => .bin .imp (tauRuleBody false a r globals) (.atomic (.atom (tauHeadAtom a globals)))
  | .choice a => .bin .imp (tauRuleBody true a r globals) (.atomic (.atom (tauHeadAtom a globals)))

theorem tauStarRule_shape (r : Rule) (globals : List String) :
    ∃ names, (∀ x, x ∈ names ↔ x ∈ r.vars ++ globals.take r.head.arity) ∧
      (tauStarRule r globals = .quant .all (sortedGeneral names) (ruleMatrix r globals) ∨
        names = [] ∧ tauStarRule r globals = ruleMatrix r globals) := by
  have close : ∀ G : Formula, ∃ names, (∀ x, x ∈ names ↔ x ∈ r.vars ++ globals.take 0) ∧
      ((if (sortedGeneral r.vars).isEmpty then G else .quant .all (sortedGeneral r.vars) G) =
          .quant .all (sortedGeneral names) G ∨
        names = [] ∧ (if (sortedGeneral r.vars).isEmpty then G else .quant .all (sortedGeneral r.vars) G) = G) := by
    refine fun G => ⟨r.vars, fun x => by rw [List.take_zero, List.append_nil], ?_⟩
    by_cases he : (sortedGeneral r.vars).isEmpty = true
    · exact Or.inr ⟨sortedGeneral_isEmpty he, if_pos he⟩
    · exact Or.inl (if_neg he)
  have head : ∀ (ch : Bool) (a : Asp.Atom), ∃ names,
      (∀ x, x ∈ names ↔ x ∈ r.vars ++ globals.take a.args.length) ∧
      (headRuleFormula ch a r globals = .quant .all (sortedGeneral names)
          (.bin .imp (tauRuleBody ch a r globals) (.atomic (.atom (tauHeadAtom a globals)))) ∨
        names = [] ∧ headRuleFormula ch a r globals =
          .bin .imp (tauRuleBody ch a r globals) (.atomic (.atom (tauHeadAtom a globals)))) := by
    intro ch a
    unfold headRuleFormula tauRuleBody tauHeadAtom
    by_cases hpos : a.args.length > 0
    · simp only [if_pos hpos]
      exact ⟨_, fun x => Iff.rfl, Or.inl rfl⟩
    · simp only [Nat.eq_zero_of_not_pos hpos, Nat.lt_irrefl, if_false, List.take_zero, List.map_nil]
      exact close _
  cases hh : r.head with
  | falsity =>
    unfold tauStarRule ruleMatrix
    simp only [hh]
    exact close _
  | basic a => rw [tauStarRule_basic r a globals hh, ruleMatrix, hh]; exact head false a
  | choice a => rw [tauStarRule_choice r a globals hh, ruleMatrix, hh]; exact head true a

theorem tauRuleBody_FV {ch : Bool} {a : Asp.Atom} {r : Rule} {globals : List String} {v : Var}
    (hsub : ∀ t ∈ a.args, ∀ x ∈ t.vars, x ∈ r.vars) (h : (tauRuleBody ch a r globals).FV v) :
    GenIn (r.vars ++ globals.take a.args.length) v := by
  have hbody : (tauBody r.body).FV v → GenIn (r.vars ++ globals.take a.args.length) v := fun hv =>
    (tauBody_FV r.body v hv).mono fun x hx => List.mem_append_left _ (body_vars_subset r x hx)
  have hcore : (if a.args.length > 0 then
      Formula.bin .and (conjoin ((a.args.zip (globals.take a.args.length)).map fun (t, v) => val t ⟨v, .general⟩))
        (tauBody r.body) else tauBody r.body).FV v → GenIn (r.vars ++ globals.take a.args.length) v := by
    intro h
    split at h
    · rcases h with h | h
      · rcases valsConj_FV h with hg | ⟨t, ht, hg⟩
        · exact hg.mono fun x hx => List.mem_append_right _ hx
        · exact hg.mono fun x hx => List.mem_append_left _ (hsub t ht x hx)
      · exact hbody h
    · exact hbody h
  unfold tauRuleBody at h
  cases ch with
  | false => exact hcore h
  | true => exact h.elim hcore fun h => (FV_atom_vars h).mono fun x hx => List.mem_append_right _ hx

theorem tauStarRule_closed (r : Rule) (globals : List String) (v : Var) : ¬ (tauStarRule r globals).FV v := by
  obtain ⟨names, hn, h⟩ := tauStarRule_shape r globals
  have hG : ∀ v, (ruleMatrix r globals).FV v → GenIn names v := by
    intro v hv
    refine GenIn.mono ?_ fun x hx => (hn x).mpr hx
    unfold ruleMatrix at hv
    cases hh : r.head with
    | falsity =>
      rw [hh] at hv
      exact hv.elim (fun hv => (tauBody_FV r.body v hv).mono fun x hx =>
        List.mem_append_left _ (body_vars_subset r x hx)) fun hv => absurd hv (FV_fls v)
    | basic a =>
      rw [hh] at hv
      exact hv.elim (tauRuleBody_FV (head_vars_subset r a (Or.inl hh))) fun hv =>
        (FV_atom_vars hv).mono fun x hx => List.mem_append_right _ hx
    | choice a =>
      rw [hh] at hv
      exact hv.elim (tauRuleBody_FV (head_vars_subset r a (Or.inr hh))) fun hv =>
        (FV_atom_vars hv).mono fun x hx => List.mem_append_right _ hx
  intro hv
  rcases h with h | ⟨rfl, h⟩ <;> rw [h] at hv
  · exact hv.2 (genIn_mem_sortedGeneral (hG v hv.1))
  · exact nomatch (hG v hv).2

theorem tauStarRule_fv_nil (r : Rule) (globals : List String) : (tauStarRule r globals).fv = [] :=
  List.eq_nil_iff_forall_not_mem.mpr fun v hv => tauStarRule_closed r globals v (Formula.mem_fv.mp hv)

theorem allUnique_iff_nodup {α} [DecidableEq α] (l : List α) : allUnique l = true ↔ l.Nodup := by
  induction l with
  | nil => simp [allUnique]
  | cons x xs ih => simp [allUnique, ih]

theorem splitImplication_head (body : Formula) (p : String) (zs : List String) (hn : zs.Nodup) :
    splitImplication (.bin .imp body (.atomic (.atom ⟨p, zs.map GTerm.var⟩))) =
      some (.partialDef body ⟨p, zs.map GTerm.var⟩) := by
  have hmap : (zs.map GTerm.var).map GTerm.asVar? = zs.map fun z => some (⟨z, .general⟩ : Var) := by
    rw [List.map_map]; rfl
  have h2 : allUnique ((zs.map GTerm.var).map GTerm.asVar?) = true := by
    rw [allUnique_iff_nodup, hmap]
    exact List.Pairwise.map _ (fun a b hab hc => hab (by injection hc with hc; injection hc)) hn
  have h1 : ((zs.map GTerm.var).map GTerm.asVar?).contains none = false := by
    rw [hmap]
    refine Bool.eq_false_iff.mpr fun hc => ?_
    obtain ⟨z, _, e⟩ := List.mem_map.mp (List.contains_iff_mem.mp hc)
    cases e
  show (if (((zs.map GTerm.var).map GTerm.asVar?).contains none ||
    !allUnique ((zs.map GTerm.var).map GTerm.asVar?)) = true then none else some _) = _
  rw [h1, h2]
  rfl

theorem tauStarRule_split (r : Rule) (globals : List String) (hn : globals.Nodup) :
    split (tauStarRule r globals) = some (ruleComponent r globals) := by
  have hfv := tauStarRule_fv_nil r globals
  have hm : splitImplication (ruleMatrix r globals) = some (ruleComponent r globals) := by
    have hfn : ∀ n, (globals.take n).Nodup := fun n => hn.sublist (List.take_sublist _ _)
    unfold ruleMatrix ruleComponent
    cases r.head with
    | falsity => rfl
    | basic a => exact splitImplication_head _ _ _ (hfn _)
    | choice a => exact splitImplication_head _ _ _ (hfn _)
  -- the formula is closed (`hfv`), so `split` passes its test and hands the matrix to `splitImplication`,
  -- after the quantifier if there is one; without one the matrix is an implication, not a quantifier
  obtain ⟨names, -, h | ⟨-, h⟩⟩ := tauStarRule_shape r globals <;> rw [h] at hfv ⊢ <;> rw [← hm]
  · unfold split; rw [hfv]; rfl
  · unfold split ruleMatrix at *
    rw [hfv]
    cases r.head <;> rfl

def collectStep (acc : Definitions × List Formula) (c : Component) : Definitions × List Formula :=
  match c with
  | .constraint f => (acc.1, acc.2 ++ [f])
  | .partialDef f a => (acc.1.push a f, acc.2)

def collect (cs : List Component) (init : Definitions × List Formula) : Definitions × List Formula :=
  cs.foldl collectStep init

theorem components_foldlM (globals : List String) (hn : globals.Nodup) : ∀ (rules : List Rule)
    (init : Definitions × List Formula),
    (rules.map fun r => tauStarRule r globals).foldlM (fun (acc : Definitions × List Formula) formula =>
      match split formula with
      | none => none
      | some (.constraint c) => some (acc.1, acc.2 ++ [c])
      | some (.partialDef f a) => some (acc.1.push a f, acc.2)) init =
    some (collect (rules.map fun r => ruleComponent r globals) init) := by
  intro rules
  induction rules with
  | nil => intro init; rfl
  | cons r rs ih =>
    intro init
    simp only [List.map_cons, List.foldlM_cons, tauStarRule_split r globals hn]
    cases hc : ruleComponent r globals with
    | constraint f => simp only [Option.bind_eq_bind, Option.bind_some]; rw [ih]; simp [collect, collectStep]
    | partialDef f a => simp only [Option.bind_eq_bind, Option.bind_some]; rw [ih]; simp [collect, collectStep]

theorem components_tauStar (P : Program) :
    components (tauStar P) = some (collect (P.map fun r => ruleComponent r (chooseFreshGlobals P)) ([], [])) := by
  unfold components tauStar
  exact components_foldlM _ (chooseFreshGlobals_spec P rfl).1 P ([], [])

def bodiesOf (A : Anthem.Atom) (cs : List Component) : List Formula :=
  cs.filterMap fun c => match c with
    | .partialDef f a => if a = A then some f else none
    | .constraint _ => none

theorem mem_bodiesOf {A : Anthem.Atom} {cs : List Component} {f : Formula} :
    f ∈ bodiesOf A cs ↔ Component.partialDef f A ∈ cs := by
  unfold bodiesOf
  rw [List.mem_filterMap]
  constructor
  · rintro ⟨c, hc, h⟩
    cases c with
    | constraint _ => cases h
    | partialDef g a =>
      dsimp only at h
      by_cases e : a = A
      · rw [if_pos e] at h; cases h; exact e ▸ hc
      · rw [if_neg e] at h; cases h
  · exact fun h => ⟨_, h, if_pos rfl⟩

/-- The invariant of `collect`: the table `d` holds, for every atom with a partial definition among
    the components `seen`, one entry with exactly its bodies, in order. `Grouped.push`: by whether
    `d` has an entry for `a` already (the body is appended there) or not (a new entry). -/
def Grouped (d : Definitions) (seen : List Component) : Prop :=
  (∀ e ∈ d, e.2 = bodiesOf e.1 seen ∧ e.2 ≠ []) ∧ ∀ A, bodiesOf A seen ≠ [] → ∃ e ∈ d, e.1 = A

theorem Grouped.push {d : Definitions} {seen : List Component} (h : Grouped d seen) (a : Anthem.Atom) (f : Formula) :
    Grouped (d.push a f) (seen ++ [.partialDef f a]) := by
  have hsnoc : ∀ A, bodiesOf A (seen ++ [.partialDef f a]) = bodiesOf A seen ++ if a = A then [f] else [] := by
    intro A
    unfold bodiesOf
    rw [List.filterMap_append, List.filterMap_cons]
    by_cases e : a = A <;> simp only [e, if_true, if_false, List.filterMap_nil]
  unfold Definitions.push
  by_cases hany : d.any (·.1 = a) = true
  · obtain ⟨e0, he0, hk⟩ := List.any_eq_true.mp hany
    rw [if_pos hany]
    refine ⟨fun e he => ?_, fun A hA => ?_⟩
    · obtain ⟨e', he', rfl⟩ := List.mem_map.mp he
      by_cases hk' : e'.1 = a
      · rw [if_pos hk', hsnoc, if_pos hk'.symm, (h.1 e' he').1]
        exact ⟨rfl, List.append_ne_nil_of_right_ne_nil _ (List.cons_ne_nil _ _)⟩
      · rw [if_neg hk', hsnoc, if_neg (Ne.symm hk'), List.append_nil]
        exact h.1 e' he'
    · by_cases e : a = A
      · exact ⟨_, List.mem_map.mpr ⟨e0, he0, rfl⟩, by rw [if_pos (of_decide_eq_true hk)]; exact (of_decide_eq_true hk).trans e⟩
      · rw [hsnoc, if_neg e, List.append_nil] at hA
        obtain ⟨e', he', rfl⟩ := h.2 A hA
        exact ⟨_, List.mem_map.mpr ⟨e', he', rfl⟩, by rw [if_neg (Ne.symm e)]⟩
  · rw [if_neg hany]
    have hnew : bodiesOf a seen = [] := Classical.byContradiction fun hne => by
      obtain ⟨e, he, hk⟩ := h.2 a hne
      exact hany (List.any_eq_true.mpr ⟨e, he, decide_eq_true hk⟩)
    refine ⟨fun e he => ?_, fun A hA => ?_⟩
    · rcases List.mem_append.mp he with he | he
      · have hk : a ≠ e.1 := fun hk => hany (List.any_eq_true.mpr ⟨e, he, decide_eq_true hk.symm⟩)
        rw [hsnoc, if_neg hk, List.append_nil]
        exact h.1 e he
      · cases List.mem_singleton.mp he
        rw [hsnoc, if_pos rfl, hnew]
        exact ⟨rfl, List.cons_ne_nil _ _⟩
    · by_cases e : a = A
      · exact ⟨_, List.mem_append_right _ (List.mem_singleton.mpr rfl), e⟩
      · rw [hsnoc, if_neg e, List.append_nil] at hA
        obtain ⟨e', he', hk⟩ := h.2 A hA
        exact ⟨e', List.mem_append_left _ he', hk⟩

theorem collect_grouped : ∀ (cs seen : List Component) (d : Definitions) (cons : List Formula), Grouped d seen →
    Grouped (collect cs (d, cons)).1 (seen ++ cs) ∧
    ∀ c, c ∈ (collect cs (d, cons)).2 ↔ c ∈ cons ∨ Component.constraint c ∈ cs := by
  intro cs
  induction cs with
  | nil => exact fun seen d cons h => ⟨by rwa [List.append_nil], fun c => by simp [collect]⟩
  | cons c cs ih =>
    intro seen d cons h
    rw [show seen ++ c :: cs = (seen ++ [c]) ++ cs by rw [List.append_assoc]; rfl]
    cases c with
    | constraint g =>
      have h' : Grouped d (seen ++ [.constraint g]) := by
        unfold Grouped bodiesOf at h ⊢
        simpa only [List.filterMap_append, List.filterMap_cons, List.filterMap_nil, List.append_nil] using h
      obtain ⟨h1, h2⟩ := ih _ d (cons ++ [g]) h'
      exact ⟨h1, fun c' => (h2 c').trans (by simp [or_assoc])⟩
    | partialDef g a =>
      obtain ⟨h1, h2⟩ := ih _ _ cons (h.push a g)
      exact ⟨h1, fun c' => (h2 c').trans (by simp)⟩

theorem atomFromPred_predicate (p : Pred) : (atomFromPred p).predicate = p := by
  obtain ⟨s, n⟩ := p
  simp [atomFromPred, Anthem.Atom.predicate, (chooseFresh_spec ["V"] "V" n).2.2]

theorem mem_explicitPreds (explicit : Definitions) (q : Pred) :
    q ∈ explicit.foldl (fun acc e => ins acc e.1.predicate) [] ↔ ∃ e ∈ explicit, e.1.predicate = q := by
  rw [← List.foldl_map (f := fun e : Anthem.Atom × List Formula => e.1.predicate) (g := ins), mem_foldl_ins]
  simp only [List.not_mem_nil, false_or, List.mem_map]

theorem addEmpty_fold : ∀ (ps : List Pred) (d : Definitions), ps.Nodup →
    (∀ p ∈ ps, ∀ e ∈ d, e.1.predicate ≠ p) →
    ps.foldl Definitions.addEmpty d = d ++ ps.map fun p => (atomFromPred p, []) := by
  intro ps
  induction ps with
  | nil => exact fun d _ _ => (List.append_nil d).symm
  | cons p ps ih =>
    intro d hnd hps
    have hnew : d.addEmpty p = d ++ [(atomFromPred p, [])] := by
      refine if_neg fun hany => ?_
      obtain ⟨e, he, hk⟩ := List.any_eq_true.mp hany
      exact hps p List.mem_cons_self e he (of_decide_eq_true hk ▸ atomFromPred_predicate p)
    rw [List.foldl_cons, hnew, ih _ (List.nodup_cons.mp hnd).2, List.map_cons, List.append_assoc, List.singleton_append]
    intro q hq e he
    rcases List.mem_append.mp he with he | he
    · exact hps q (List.mem_cons_of_mem _ hq) e he
    · cases List.mem_singleton.mp he
      exact fun h => (List.nodup_cons.mp hnd).1 ((atomFromPred_predicate p).symm.trans h ▸ hq)

theorem hasHeadMismatches_false (d : Definitions)
    (h : ∀ e ∈ d, ∀ e' ∈ d, e.1.predicate = e'.1.predicate → e.1 = e'.1) : hasHeadMismatches d = false := by
  unfold hasHeadMismatches
  rw [Bool.eq_false_iff]
  intro hany
  simp only [List.any_eq_true, Bool.and_eq_true, decide_eq_true_eq] at hany
  obtain ⟨e, he, e', he', hp, hne⟩ := hany
  exact hne (h e he e' he' hp)

theorem completion_formulas (t : Theory) (inputs : List Pred) (explicit : Definitions) (constraints : List Formula)
    (hc : components t = some (explicit, constraints))
    (hkeys : ∀ e ∈ explicit, ∀ e' ∈ explicit, e.1.predicate = e'.1.predicate → e.1 = e'.1) :
    ∃ Γ, completion t inputs = some Γ ∧ ∀ F, F ∈ Γ ↔
      (∃ c ∈ constraints, F = c.universalClosure) ∨
      (∃ e ∈ explicit, e.1.predicate ∉ inputs ∧ F = completeDefinition e.1 e.2) ∨
      (∃ p ∈ t.preds, p ∉ inputs ∧ (∀ e ∈ explicit, e.1.predicate ≠ p) ∧ F = completeDefinition (atomFromPred p) []) := by
  have hnot : ∀ p, p ∉ explicit.foldl (fun acc e => ins acc e.1.predicate) [] ↔
      ∀ e ∈ explicit, e.1.predicate ≠ p := fun p => by
    simp only [mem_explicitPreds, not_exists, not_and]
  have hnd : t.preds.Nodup := nodup_foldl_ext _ t [] List.nodup_nil
  have hdefs := addEmpty_fold _ explicit (hnd.filter _)
    fun p hp => (hnot p).mp (of_decide_eq_true (List.mem_filter.mp hp).2)
  unfold completion
  simp only [hc]
  rw [hdefs, hasHeadMismatches_false]
  -- the three kinds: closed constraints, explicit definitions, empty definitions (`addEmpty_fold`)
  · refine ⟨_, rfl, fun F => ?_⟩
    simp only [List.mem_append, List.mem_map, List.mem_filter, decide_eq_true_eq, hnot]
    constructor
    · rintro (⟨c, hc', rfl⟩ | ⟨e, ⟨he | ⟨p, hp, rfl⟩, hin⟩, rfl⟩)
      · exact Or.inl ⟨c, hc', rfl⟩
      · exact Or.inr (Or.inl ⟨e, he, hin, rfl⟩)
      · exact Or.inr (Or.inr ⟨p, hp.1, atomFromPred_predicate p ▸ hin, hp.2, rfl⟩)
    · rintro (⟨c, hc', rfl⟩ | ⟨e, he, hin, rfl⟩ | ⟨p, hp, hin, hne, rfl⟩)
      · exact Or.inl ⟨c, hc', rfl⟩
      · exact Or.inr ⟨e, ⟨Or.inl he, hin⟩, rfl⟩
      · exact Or.inr ⟨(atomFromPred p, []), ⟨Or.inr ⟨p, ⟨hp, hne⟩, rfl⟩,
          (atomFromPred_predicate p).symm ▸ hin⟩, rfl⟩
  -- no head mismatch: explicit entries by `hkeys`, an empty definition is for a predicate without one
  · intro e he e' he' hp
    simp only [List.mem_append, List.mem_map, List.mem_filter, decide_eq_true_eq, hnot] at he he'
    rcases he with he | ⟨p, hp1, rfl⟩ <;> rcases he' with he' | ⟨p', hp1', rfl⟩
    · exact hkeys e he e' he' hp
    · exact absurd ((atomFromPred_predicate p').symm ▸ hp) (hp1'.2 e he)
    · exact absurd ((atomFromPred_predicate p).symm ▸ hp.symm) (hp1.2 e' he')
    · rw [atomFromPred_predicate, atomFromPred_predicate] at hp; rw [hp]

theorem sat_disjoin (I : Interp) (ρ : Asg) (fs : List Formula) :
    sat I (disjoin fs) ρ ↔ ∃ f ∈ fs, sat I f ρ := by
  cases fs with
  | nil => simp only [disjoin, Formula.fls, sat, AtomicF.sat, List.not_mem_nil, false_and, exists_false]
  | cons f fs =>
    simp only [disjoin]
    suffices h : ∀ (l : List Formula) (acc : Formula),
        sat I (l.foldl (fun acc e => Formula.bin .or acc e) acc) ρ ↔ sat I acc ρ ∨ ∃ g ∈ l, sat I g ρ by
      rw [h fs f]; simp only [List.mem_cons, exists_eq_or_imp]
    intro l
    induction l with
    | nil => intro acc; simp only [List.foldl_nil, List.not_mem_nil, false_and, exists_false, or_false]
    | cons e l ih =>
      intro acc
      simp only [List.foldl_cons, ih, sat, List.mem_cons, exists_eq_or_imp]
      exact or_assoc

theorem mem_headAtom_vars (q : String) (fvars : List String) (v : Var) :
    v ∈ (Anthem.Atom.vars ⟨q, fvars.map GTerm.var⟩) ↔ v ∈ fvars.map fun z => (⟨z, .general⟩ : Var) :=
  mem_varAtom_vars q fvars v

theorem bindEx_rest (I : Interp) (f : Formula) (v : List Var) (hgen : ∀ x, f.FV x → x.sort = .general) (τ : Asg) :
    bindEx (f.fv.filter (· ∉ v)) (sat I f) τ ↔ ∃ τ', (∀ x ∈ v, τ' x = τ x) ∧ sat I f τ' := by
  rw [bindEx_iff]
  constructor
  · rintro ⟨τ', hτ', hs⟩
    refine ⟨τ', fun x hx => hτ'.1 x (by simp [List.mem_filter, hx]), hs⟩
  · rintro ⟨τ'', hag, hs⟩
    let τ' : Asg := fun x => if x ∈ f.fv.filter (· ∉ v) then τ'' x else τ x
    refine ⟨τ', ⟨fun x hx => (by show (if _ then _ else _) = _; rw [if_neg hx]), fun x hx => ?_⟩, ?_⟩
    · have : f.FV x := Formula.mem_fv.mp (List.mem_filter.mp hx).1
      rw [hgen x this]; trivial
    · refine (sat_agree I f τ' τ'' fun x hx => ?_).mpr hs
      by_cases hxu : x ∈ f.fv.filter (· ∉ v)
      · show (if _ then _ else _) = _; rw [if_pos hxu]
      · show (if _ then _ else _) = _
        rw [if_neg hxu]
        have hxv : x ∈ v := by
          refine Classical.byContradiction fun hnv => hxu ?_
          exact List.mem_filter.mpr ⟨Formula.mem_fv.mpr hx, by simpa using hnv⟩
        exact (hag x hxv).symm

theorem completeDefinition_sem (I : Interp) (q : String) (fvars : List String) (hn : fvars.Nodup)
    (bodies : List Formula) (hgen : ∀ f ∈ bodies, ∀ x, f.FV x → x.sort = .general) (ρ : Asg) :
    sat I (completeDefinition ⟨q, fvars.map GTerm.var⟩ bodies) ρ ↔
      ∀ ds : List Dom, ds.length = fvars.length →
        (I.pred q ds ↔ ∃ f ∈ bodies, ∃ τ' : Asg, fvars.map (fun z => τ' ⟨z, .general⟩) = ds ∧ sat I f τ') := by
  unfold completeDefinition
  simp only
  rw [sat_quantify]
  simp only [sat]
  rw [bindAll_perm (mem_headAtom_vars q fvars), bindAll_fresh_general _ hn]
  refine forall_congr' fun ds => imp_congr_right fun hds => ?_
  have hm := assignGen_map ρ fvars ds hn hds.symm
  have hatom : AtomicF.sat I.pred I.fc (assignGen ρ fvars ds) (.atom ⟨q, fvars.map GTerm.var⟩) ↔ I.pred q ds := by
    simp only [AtomicF.sat, List.map_map]
    rw [show (GTerm.eval I.fc (assignGen ρ fvars ds) ∘ GTerm.var) = fun z => assignGen ρ fvars ds ⟨z, .general⟩ from rfl, hm]
  rw [hatom, sat_disjoin]
  refine iff_congr Iff.rfl ?_
  have key : ∀ f ∈ bodies, (sat I (f.quantify .ex (f.fv.filter (· ∉ Anthem.Atom.vars ⟨q, fvars.map GTerm.var⟩)))
      (assignGen ρ fvars ds) ↔ ∃ τ' : Asg, fvars.map (fun z => τ' ⟨z, .general⟩) = ds ∧ sat I f τ') := by
    intro f hf
    rw [sat_quantify]
    simp only [sat]
    rw [bindEx_rest I f _ (hgen f hf)]
    constructor
    · rintro ⟨τ', hag, hs⟩
      refine ⟨τ', ?_, hs⟩
      rw [← hm]
      apply List.map_congr_left
      intro z hz
      exact hag _ ((mem_headAtom_vars q fvars _).mpr (List.mem_map.mpr ⟨z, hz, rfl⟩))
    · rintro ⟨τ', hmap, hs⟩
      refine ⟨τ', fun x hx => ?_, hs⟩
      obtain ⟨z, hz, rfl⟩ := List.mem_map.mp ((mem_headAtom_vars q fvars x).mp hx)
      exact List.map_inj_left.mp (hmap.trans hm.symm) z hz
  constructor
  · rintro ⟨F, hF, hs⟩
    obtain ⟨f, hf, rfl⟩ := List.mem_map.mp hF
    exact ⟨f, hf, (key f hf).mp hs⟩
  · rintro ⟨f, hf, h⟩
    exact ⟨_, List.mem_map.mpr ⟨f, hf, rfl⟩, (key f hf).mpr h⟩

theorem tauRuleBody_sat (T : PredI) (fc : FcI) (ch : Bool) (a : Asp.Atom) (r : Rule) (globals : List String)
    (hlen : a.args.length ≤ globals.length) (τ : Asg) :
    sat ⟨T, fc⟩ (tauRuleBody ch a r globals) τ ↔
      (valsList (σOf τ) a.args ((globals.take a.args.length).map (σOf τ)) ∧
        bodySat ⟨T, T, fc⟩ .there (σOf τ) r.body ∧
        (ch = true → T a.pred ((globals.take a.args.length).map (σOf τ)))) := by
  rw [← ht_there_eq_sat ⟨T, T, fc⟩]
  have hfl : (globals.take a.args.length).length = a.args.length := by
    rw [List.length_take]; exact Nat.min_eq_left hlen
  have hz := valsZip ⟨T, T, fc⟩ .there τ a.args (globals.take a.args.length) hfl.symm
  have hcore : ht ⟨T, T, fc⟩ (if a.args.length > 0 then
      Formula.bin .and (conjoin ((a.args.zip (globals.take a.args.length)).map fun (t, v) => val t ⟨v, .general⟩))
        (tauBody r.body) else tauBody r.body) .there τ ↔
      (valsList (σOf τ) a.args ((globals.take a.args.length).map (σOf τ)) ∧
        bodySat ⟨T, T, fc⟩ .there (σOf τ) r.body) := by
    split
    · simp only [ht, ht_conjoin, tauBody_sem]
      rw [hz]; rfl
    · rename_i hpos
      rw [tauBody_sem, List.eq_nil_of_length_eq_zero (Nat.eq_zero_of_not_pos hpos)]
      simp only [List.length_nil, List.take_zero, List.map_nil, valsList, true_and]
  unfold tauRuleBody
  cases ch with
  | false => simp only [Bool.false_eq_true, if_false, false_imp_iff, and_true]; exact hcore
  | true =>
    simp only [if_true, true_imp_iff]
    rw [show ∀ (A B : Formula), ht ⟨T, T, fc⟩ (.bin .and A B) .there τ ↔
        (ht ⟨T, T, fc⟩ A .there τ ∧ ht ⟨T, T, fc⟩ B .there τ) from fun _ _ => Iff.rfl, hcore]
    unfold tauHeadAtom
    rw [ht_notnot_atom_vars, and_assoc]

def HeadOf (r : Rule) (a : Asp.Atom) (ch : Bool) : Prop :=
  (r.head = .basic a ∧ ch = false) ∨ (r.head = .choice a ∧ ch = true)

theorem mem_comps_partialDef (P : Program) (globals : List String) (f : Formula) (A : Anthem.Atom) :
    Component.partialDef f A ∈ P.map (fun r => ruleComponent r globals) ↔
      ∃ r ∈ P, ∃ a ch, HeadOf r a ch ∧ f = tauRuleBody ch a r globals ∧ A = tauHeadAtom a globals := by
  simp only [List.mem_map]
  constructor
  · rintro ⟨r, hr, hc⟩
    unfold ruleComponent at hc
    cases hh : r.head with
    | falsity => rw [hh] at hc; cases hc
    | basic a =>
      rw [hh] at hc
      injection hc with h1 h2
      exact ⟨r, hr, a, false, Or.inl ⟨hh, rfl⟩, h1.symm, h2.symm⟩
    | choice a =>
      rw [hh] at hc
      injection hc with h1 h2
      exact ⟨r, hr, a, true, Or.inr ⟨hh, rfl⟩, h1.symm, h2.symm⟩
  · rintro ⟨r, hr, a, ch, hh, rfl, rfl⟩
    refine ⟨r, hr, ?_⟩
    unfold ruleComponent
    rcases hh with ⟨hh, rfl⟩ | ⟨hh, rfl⟩ <;> rw [hh]

theorem mem_comps_constraint (P : Program) (globals : List String) (c : Formula) :
    Component.constraint c ∈ P.map (fun r => ruleComponent r globals) ↔
      ∃ r ∈ P, r.head = .falsity ∧ c = .bin .imp (tauBody r.body) .fls := by
  simp only [List.mem_map]
  constructor
  · rintro ⟨r, hr, hc⟩
    unfold ruleComponent at hc
    cases hh : r.head with
    | falsity => rw [hh] at hc; injection hc with h1; exact ⟨r, hr, hh, h1.symm⟩
    | basic a => rw [hh] at hc; cases hc
    | choice a => rw [hh] at hc; cases hc
  · rintro ⟨r, hr, hh, rfl⟩
    exact ⟨r, hr, by unfold ruleComponent; rw [hh]⟩

theorem tauHeadAtom_eq {a a' : Asp.Atom} {globals : List String} (h1 : a.args.length ≤ globals.length)
    (h2 : a'.args.length ≤ globals.length) :
    tauHeadAtom a globals = tauHeadAtom a' globals ↔ a.pred = a'.pred ∧ a.args.length = a'.args.length := by
  unfold tauHeadAtom
  constructor
  · intro h
    injection h with hp ha
    refine ⟨hp, ?_⟩
    have := congrArg List.length ha
    rwa [List.length_map, List.length_map, List.length_take, List.length_take, Nat.min_eq_left h1,
      Nat.min_eq_left h2] at this
  · rintro ⟨hp, hl⟩
    rw [hp, hl]

theorem tauHeadAtom_predicate (a : Asp.Atom) (globals : List String) (h : a.args.length ≤ globals.length) :
    (tauHeadAtom a globals).predicate = a.predicate := by
  show (⟨a.pred, ((globals.take a.args.length).map GTerm.var).length⟩ : Pred) = ⟨a.pred, a.args.length⟩
  rw [List.length_map, List.length_take, Nat.min_eq_left h]

theorem preds_val : ∀ (t : Term) (z : Var), (val t z).preds = [] := by
  intro t
  induction t with
  | pre p => exact fun z => rfl
  | var x => exact fun z => rfl
  | neg a ih =>
    intro z
    simp only [val, totalFunction, Formula.preds, ih]; rfl
  | bin op l r ihl ihr =>
    intro z
    cases op <;>
      simp only [val, totalFunction, partialFunction, intervalFormula, Formula.preds, ihl, ihr] <;> rfl

theorem preds_conjoin {fs : List Formula} {q : Pred} : q ∈ (conjoin fs).preds ↔ ∃ f ∈ fs, q ∈ f.preds := by
  have hs : ∀ (l : List Formula) (acc : Formula),
      q ∈ (l.foldl (fun acc e => Formula.bin .and acc e) acc).preds ↔ q ∈ acc.preds ∨ ∃ g ∈ l, q ∈ g.preds := by
    intro l
    induction l with
    | nil => intro acc; simp only [List.foldl_nil, List.not_mem_nil, false_and, exists_false, or_false]
    | cons e l ih =>
      intro acc
      simp only [List.foldl_cons, ih, Formula.preds, mem_ext, List.mem_cons, exists_eq_or_imp, or_assoc]
  cases fs with
  | nil => exact ⟨fun h => (nomatch h), fun ⟨_, h, _⟩ => (nomatch h)⟩
  | cons f fs => simp only [conjoin, hs, List.mem_cons, exists_eq_or_imp]

theorem preds_valsConj (args : List Term) (zs : List String) :
    (conjoin ((args.zip zs).map fun (t, z) => val t ⟨z, .general⟩)).preds = [] :=
  List.eq_nil_iff_forall_not_mem.mpr fun q hq => by
    obtain ⟨f, hf, hq⟩ := preds_conjoin.mp hq
    obtain ⟨⟨t, z⟩, _, rfl⟩ := List.mem_map.mp hf
    rw [preds_val] at hq
    cases hq

theorem preds_signed (s : Sign) (A : Formula) : (signed s A).preds = A.preds := by
  cases s <;> rfl

theorem tauB_preds (f : BodyAtom) (q : Pred) : q ∈ (tauB f).preds ↔ q ∈ f.preds := by
  cases f with
  | cmp rel l r =>
    simp only [tauB, Formula.preds, preds_val, BodyAtom.preds]
    exact Iff.rfl
  | lit l =>
    obtain ⟨s, a⟩ := l
    have hz := (chooseFresh_spec (BodyAtom.lit ⟨s, a⟩).vars "Z" a.args.length).2.2
    by_cases hpos : a.args.length > 0
    · simp only [tauB, hpos, if_true, Formula.preds, mem_ext, preds_valsConj, preds_signed, AtomicF.preds,
        List.not_mem_nil, false_or, Anthem.Atom.predicate, List.length_map, hz, BodyAtom.preds]
      exact Iff.rfl
    · simp only [tauB, hpos, if_false, preds_signed, Formula.preds, AtomicF.preds, Anthem.Atom.predicate,
        List.length_nil, BodyAtom.preds, Asp.Atom.predicate]
      rw [Nat.eq_zero_of_not_pos hpos]

theorem tauBody_preds (b : List BodyAtom) (q : Pred) : q ∈ (tauBody b).preds ↔ q ∈ bodyPreds b := by
  rw [tauBody, preds_conjoin, mem_bodyPreds]
  constructor
  · rintro ⟨F, hF, hq⟩
    obtain ⟨f, hf, rfl⟩ := List.mem_map.mp hF
    exact ⟨f, hf, (tauB_preds f q).mp hq⟩
  · rintro ⟨f, hf, hq⟩
    exact ⟨_, List.mem_map.mpr ⟨f, hf, rfl⟩, (tauB_preds f q).mpr hq⟩

theorem tauRuleBody_preds (ch : Bool) (a : Asp.Atom) (r : Rule) (globals : List String) (q : Pred) :
    q ∈ (tauRuleBody ch a r globals).preds ↔
      q ∈ bodyPreds r.body ∨ (ch = true ∧ q = (tauHeadAtom a globals).predicate) := by
  have hcore : q ∈ (if a.args.length > 0 then
      Formula.bin .and (conjoin ((a.args.zip (globals.take a.args.length)).map fun (t, v) => val t ⟨v, .general⟩))
        (tauBody r.body) else tauBody r.body).preds ↔ q ∈ bodyPreds r.body := by
    split
    · simp only [Formula.preds, mem_ext, preds_valsConj, List.not_mem_nil, false_or, tauBody_preds]
    · exact tauBody_preds r.body q
  unfold tauRuleBody
  cases ch
  · simp only [Bool.false_eq_true, if_false, false_and, or_false]
    exact hcore
  · simp only [if_true, Formula.preds, mem_ext, AtomicF.preds, List.mem_singleton, true_and]
    rw [hcore]

theorem tauStarRule_preds (r : Rule) (globals : List String) (hlen : r.head.arity ≤ globals.length)
    (q : Pred) : q ∈ (tauStarRule r globals).preds ↔ q ∈ r.preds := by
  have hm : q ∈ (ruleMatrix r globals).preds ↔ q ∈ r.preds := by
    rw [mem_rule_preds, ruleMatrix]
    cases hh : r.head with
    | falsity =>
      simp only [Formula.preds, mem_ext, tauBody_preds, Formula.fls, AtomicF.preds, List.not_mem_nil, or_false,
        Head.predicate, reduceCtorEq, false_or]
    | basic a =>
      rw [hh] at hlen
      simp only [Formula.preds, mem_ext, tauRuleBody_preds, AtomicF.preds, List.mem_singleton,
        tauHeadAtom_predicate a globals hlen, Head.predicate, Option.some.injEq, Bool.false_eq_true, false_and,
        or_false]
      exact or_comm.trans (or_congr_left eq_comm)
    | choice a =>
      rw [hh] at hlen
      simp only [Formula.preds, mem_ext, tauRuleBody_preds, AtomicF.preds, List.mem_singleton,
        tauHeadAtom_predicate a globals hlen, Head.predicate, Option.some.injEq, true_and, or_assoc, or_self]
      exact or_comm.trans (or_congr_left eq_comm)
  obtain ⟨names, -, h | ⟨-, h⟩⟩ := tauStarRule_shape r globals <;> rw [h] <;> exact hm

theorem tauStar_preds (P : Program) (hp : globalsPanic P = false) (q : Pred) (h : q ∈ P.preds) :
    q ∈ Theory.preds (tauStar P) := by
  obtain ⟨r, hr, hq⟩ := mem_program_preds.mp h
  unfold Theory.preds
  rw [mem_foldl_ext]
  refine Or.inr ⟨tauStarRule r (chooseFreshGlobals P), List.mem_map.mpr ⟨r, hr, rfl⟩, ?_⟩
  exact (tauStarRule_preds r _ (by rw [(chooseFreshGlobals_spec P hp).2.2]; exact arity_le_maxHeadArity P r hr) q).mpr hq

theorem mem_headPreds (P : Program) (q : Pred) : q ∈ P.headPreds ↔ ∃ r ∈ P, r.head.predicate = some q := by
  suffices h : ∀ (l : Program) (init : List Pred),
      q ∈ l.foldl headPredStep init ↔ q ∈ init ∨ ∃ r ∈ l, r.head.predicate = some q from
    (h P []).trans (or_iff_right List.not_mem_nil)
  intro l
  induction l with
  | nil => exact fun init => by simp only [List.foldl_nil, List.not_mem_nil, false_and, exists_false, or_false]
  | cons r l ih =>
    intro init
    rw [List.foldl_cons, ih, headPredStep]
    simp only [List.mem_cons, exists_eq_or_imp]
    cases r.head.predicate with
    | none => simp only [reduceCtorEq, false_or]
    | some q' => simp only [mem_ins, Option.some.injEq, or_assoc, eq_comm]

theorem headOf_predicate {r : Rule} {a : Asp.Atom} {ch : Bool} (h : HeadOf r a ch) :
    r.head.predicate = some a.predicate := by
  rcases h with ⟨h, _⟩ | ⟨h, _⟩ <;> rw [h] <;> rfl

theorem headOf_arity {r : Rule} {a : Asp.Atom} {ch : Bool} (h : HeadOf r a ch) : r.head.arity = a.args.length := by
  rcases h with ⟨h, _⟩ | ⟨h, _⟩ <;> rw [h] <;> rfl

theorem HeadOf.head {r : Rule} {a : Asp.Atom} {ch : Bool} (h : HeadOf r a ch) :
    r.head = .basic a ∨ r.head = .choice a :=
  h.elim (fun h => Or.inl h.1) fun h => Or.inr h.1

theorem HeadOf.head_eq {r : Rule} {a : Asp.Atom} {ch : Bool} (h : HeadOf r a ch) :
    r.head = if ch then .choice a else .basic a := by
  rcases h with ⟨h, rfl⟩ | ⟨h, rfl⟩ <;> exact h

theorem headOf_of_head {r : Rule} {a : Asp.Atom} (h : r.head = .basic a ∨ r.head = .choice a) :
    ∃ ch, HeadOf r a ch :=
  h.elim (fun h => ⟨false, Or.inl ⟨h, rfl⟩⟩) fun h => ⟨true, Or.inr ⟨h, rfl⟩⟩

theorem headOf_le_globals {P : Program} {r : Rule} (hr : r ∈ P) {a : Asp.Atom}
    {ch : Bool} (hh : HeadOf r a ch) : a.args.length ≤ (chooseFreshGlobals P).length := by
  rw [(chooseFreshGlobals_spec P rfl).2.2, ← headOf_arity hh]
  exact arity_le_maxHeadArity P r hr

theorem collect_nil_grouped (cs : List Component) :
    Grouped (collect cs ([], [])).1 cs ∧ ∀ c, c ∈ (collect cs ([], [])).2 ↔ Component.constraint c ∈ cs := by
  have h := collect_grouped cs [] [] [] ⟨fun _ h => (nomatch h), fun _ h => absurd rfl h⟩
  simp only [List.nil_append, List.not_mem_nil, false_or] at h
  exact h

theorem mem_entry {cs : List Component} {A : Anthem.Atom} {fs : List Formula}
    (hA : (A, fs) ∈ (collect cs ([], [])).1) (f : Formula) : f ∈ fs ↔ Component.partialDef f A ∈ cs := by
  rw [show fs = bodiesOf A cs from ((collect_nil_grouped cs).1.1 _ hA).1]
  exact mem_bodiesOf

theorem entry_head {P : Program} {globals : List String} {e : Anthem.Atom × List Formula}
    (he : e ∈ (collect (P.map fun r => ruleComponent r globals) ([], [])).1) :
    ∃ r ∈ P, ∃ a ch, HeadOf r a ch ∧ e.1 = tauHeadAtom a globals := by
  obtain ⟨f, hf⟩ := List.exists_mem_of_ne_nil _ ((collect_nil_grouped _).1.1 e he).2
  obtain ⟨r, hr, a, ch, hh, _, hA⟩ := (mem_comps_partialDef P _ f e.1).mp ((mem_entry he f).mp hf)
  exact ⟨r, hr, a, ch, hh, hA⟩

theorem entry_exists {P : Program} (globals : List String) {r : Rule} (hr : r ∈ P) {a : Asp.Atom} {ch : Bool}
    (hh : HeadOf r a ch) :
    ∃ fs, (tauHeadAtom a globals, fs) ∈ (collect (P.map fun r => ruleComponent r globals) ([], [])).1 := by
  obtain ⟨e, he, hk⟩ := (collect_nil_grouped _).1.2 (tauHeadAtom a globals) (List.ne_nil_of_mem
    (mem_bodiesOf.mpr ((mem_comps_partialDef P globals _ _).mpr ⟨r, hr, a, ch, hh, rfl, rfl⟩)))
  exact ⟨e.2, hk ▸ he⟩

def asgOf (σ : Subst) : Asg := fun v =>
  match v.sort with
  | .general => σ v.name
  | .integer => .num 0
  | .symbol => .sym ""

theorem asgOf_ws (σ : Subst) : WSAsg (asgOf σ) := by
  intro v; obtain ⟨n, s⟩ := v; cases s <;> simp [asgOf, Dom.inSort]

theorem σOf_asgOf (σ : Subst) : σOf (asgOf σ) = σ := rfl

theorem constraint_sem (T : PredI) (fc : FcI) (r : Rule) (hh : r.head = .falsity) (ρ : Asg) :
    sat ⟨T, fc⟩ (Formula.bin .imp (tauBody r.body) .fls).universalClosure ρ ↔ ruleSat ⟨T, T, fc⟩ .there r := by
  rw [← ht_there_eq_sat ⟨T, T, fc⟩, ht_universalClosure]
  unfold ruleSat
  rw [hh]
  simp only [headSat]
  constructor
  · intro h σ
    have := h (asgOf σ) (asgOf_ws σ)
    simp only [ht, tauBody_sem, Formula.fls, AtomicF.sat, σOf_asgOf] at this
    exact this
  · intro h τ _
    simp only [ht, tauBody_sem, Formula.fls, AtomicF.sat]
    exact h (σOf τ)

/-- the reference form of one completed definition -/
def DefHolds (P : Program) (T : PredI) (fc : FcI) (q : String) (n : Nat) : Prop :=
  ∀ ds : List Dom, ds.length = n →
    (T q ds ↔ ∃ r ∈ P, ∃ a ch, HeadOf r a ch ∧ a.pred = q ∧ a.args.length = n ∧
      ∃ σ : Subst, valsList σ a.args ds ∧ bodySat ⟨T, T, fc⟩ .there σ r.body ∧ (ch = true → T q ds))

theorem entry_sem (P : Program) (T : PredI) (fc : FcI) (ρ : Asg)
    (A : Anthem.Atom) (fs : List Formula)
    (hA : (A, fs) ∈ (collect (P.map fun r => ruleComponent r (chooseFreshGlobals P)) ([], [])).1)
    (a0 : Asp.Atom) (hlen0 : a0.args.length ≤ (chooseFreshGlobals P).length)
    (hA0 : A = tauHeadAtom a0 (chooseFreshGlobals P)) :
    sat ⟨T, fc⟩ (completeDefinition A fs) ρ ↔ DefHolds P T fc a0.pred a0.args.length := by
  obtain ⟨hn, hfresh, -⟩ := chooseFreshGlobals_spec P rfl
  have hla : ∀ {r a ch}, r ∈ P → HeadOf r a ch → a.args.length ≤ (chooseFreshGlobals P).length :=
    fun hr hh => headOf_le_globals hr hh
  have hfs := mem_entry hA
  generalize chooseFreshGlobals P = g at *
  have hfl : (g.take a0.args.length).length = a0.args.length := by
    rw [List.length_take]; exact Nat.min_eq_left hlen0
  have hfn : (g.take a0.args.length).Nodup := hn.sublist (List.take_sublist _ _)
  have hgen : ∀ f ∈ fs, ∀ x, f.FV x → x.sort = .general := by
    intro f hf x hx
    obtain ⟨r, _, a, ch, hh, rfl, _⟩ := (mem_comps_partialDef P _ f A).mp ((hfs f).mp hf)
    exact (tauRuleBody_FV (head_vars_subset r a hh.head) hx).1
  subst hA0
  unfold tauHeadAtom at hfs ⊢
  rw [completeDefinition_sem ⟨T, fc⟩ a0.pred _ hfn fs hgen ρ, hfl]
  refine forall_congr' fun ds => imp_congr_right fun hds => iff_congr Iff.rfl ?_
  constructor
  · rintro ⟨f, hf, τ', hmap, hs⟩
    obtain ⟨r, hr, a, ch, hh, rfl, hAa⟩ := (mem_comps_partialDef P _ f _).mp ((hfs f).mp hf)
    obtain ⟨hp', hl'⟩ := (tauHeadAtom_eq hlen0 (hla hr hh)).mp hAa
    rw [tauRuleBody_sat T fc ch a r _ (hla hr hh) τ', ← hl', show (g.take a0.args.length).map (σOf τ') = ds from hmap,
      ← hp'] at hs
    exact ⟨r, hr, a, ch, hh, hp'.symm, hl'.symm, σOf τ', hs⟩
  · rintro ⟨r, hr, a, ch, hh, hpa, hla', σ, hv, hb, hc⟩
    have hAa := (tauHeadAtom_eq hlen0 (hla hr hh)).mpr ⟨hpa.symm, hla'.symm⟩
    -- the assignment: `σ` on the rule's variables, `ds` on the global variables
    obtain ⟨τ, hm, hag⟩ : ∃ τ : Asg, (g.take a0.args.length).map (σOf τ) = ds ∧ ∀ x ∈ r.vars, σOf τ x = σ x :=
      ⟨assignGen (fun v => σ v.name) _ ds, assignGen_map _ _ ds hfn (hfl.trans hds.symm), fun x hx =>
        assignGen_other _ _ ds ⟨x, .general⟩ fun z hz e =>
          hfresh _ (List.mem_of_mem_take hz) (rule_vars_subset P r hr _ (by cases e; exact hx))⟩
    refine ⟨tauRuleBody ch a r g, (hfs _).mpr ((mem_comps_partialDef P _ _ _).mpr ⟨r, hr, a, ch, hh, rfl, hAa⟩),
      τ, hm, ?_⟩
    rw [tauRuleBody_sat T fc ch a r _ (hla hr hh), hla', hm, hpa]
    exact ⟨(valsList_congr a.args ds fun t ht x hx => hag x (head_vars_subset r a hh.head t ht x hx)).mpr hv,
      (bodySat_congr _ _ r.body fun x hx => hag x (body_vars_subset r x hx)).mpr hb, hc⟩

theorem emptyDefinition_sem (T : PredI) (fc : FcI) (p : Pred) (ρ : Asg) :
    sat ⟨T, fc⟩ (completeDefinition (atomFromPred p) []) ρ ↔ ∀ ds : List Dom, ds.length = p.arity → ¬ T p.symbol ds := by
  obtain ⟨hnd, _, hl⟩ := chooseFresh_spec ["V"] "V" p.arity
  unfold atomFromPred
  rw [completeDefinition_sem ⟨T, fc⟩ p.symbol _ hnd [] (fun _ h => nomatch h) ρ, hl]
  simp only [List.not_mem_nil, false_and, exists_false, iff_false]

theorem emptyDefinition_defHolds {P : Program} (T : PredI) (fc : FcI) (ρ : Asg) {p : Pred}
    (hno : ∀ r ∈ P, ∀ a ch, HeadOf r a ch → a.predicate ≠ p) :
    sat ⟨T, fc⟩ (completeDefinition (atomFromPred p) []) ρ ↔ DefHolds P T fc p.symbol p.arity := by
  rw [emptyDefinition_sem]
  refine forall_congr' fun ds => imp_congr_right fun _ => (iff_false_right ?_).symm
  rintro ⟨r, hr, a, ch, hh, hpa, hla, _⟩
  exact hno r hr a ch hh (by rw [Asp.Atom.predicate, hpa, hla])

theorem completion_tauStar (P : Program) (ins : List Pred) :
    ∃ Γ, completion (tauStar P) ins = some Γ ∧ ∀ F, F ∈ Γ ↔
      (∃ r ∈ P, r.head = .falsity ∧ F = (Formula.bin .imp (tauBody r.body) .fls).universalClosure) ∨
      (∃ e ∈ (collect (P.map fun r => ruleComponent r (chooseFreshGlobals P)) ([], [])).1,
        e.1.predicate ∉ ins ∧ F = completeDefinition e.1 e.2) ∨
      (∃ p ∈ Theory.preds (tauStar P), p ∉ ins ∧ (∀ r ∈ P, ∀ a ch, HeadOf r a ch → a.predicate ≠ p) ∧
        F = completeDefinition (atomFromPred p) []) := by
  have hpred : ∀ {r a ch}, r ∈ P → HeadOf r a ch →
      (tauHeadAtom a (chooseFreshGlobals P)).predicate = a.predicate :=
    fun hr hh => tauHeadAtom_predicate _ _ (headOf_le_globals hr hh)
  obtain ⟨Γ, hΓ, hmem⟩ := completion_formulas (tauStar P) ins _ _ (components_tauStar P) (by
    -- entries of one predicate have the same key: keys are head atoms over the same global variables
    intro e he e' he' hpe
    obtain ⟨r, hr, a, ch, hh, hA⟩ := entry_head he
    obtain ⟨r', hr', a', ch', hh', hA'⟩ := entry_head he'
    rw [hA, hA', hpred hr hh, hpred hr' hh'] at hpe
    rw [hA, hA']
    exact (tauHeadAtom_eq (headOf_le_globals hr hh) (headOf_le_globals hr' hh')).mpr (Pred.mk.inj hpe))
  refine ⟨Γ, hΓ, fun F => (hmem F).trans (or_congr ?_ (or_congr_right ?_))⟩
  · constructor
    · rintro ⟨c, hc, rfl⟩
      obtain ⟨r, hr, hh, rfl⟩ := (mem_comps_constraint P _ c).mp (((collect_nil_grouped _).2 c).mp hc)
      exact ⟨r, hr, hh, rfl⟩
    · rintro ⟨r, hr, hh, rfl⟩
      exact ⟨_, ((collect_nil_grouped _).2 _).mpr ((mem_comps_constraint P _ _).mpr ⟨r, hr, hh, rfl⟩), rfl⟩
  · -- "no entry for `p`" says that no rule head has predicate `p`
    refine exists_congr fun p => and_congr_right fun _ => and_congr_right fun _ => and_congr_left fun _ => ?_
    constructor
    · intro hno r hr a ch hh
      obtain ⟨fs, hfs⟩ := entry_exists (chooseFreshGlobals P) hr hh
      exact hpred hr hh ▸ hno _ hfs
    · intro hno e he
      obtain ⟨r, hr, a, ch, hh, hA⟩ := entry_head he
      rw [hA, hpred hr hh]
      exact hno r hr a ch hh

/-- for a predicate without rules `DefHolds` says that it is empty -/
theorem completion_tauStar_sat (P : Program) (ins : List Pred) :
    ∃ Γ, completion (tauStar P) ins = some Γ ∧ ∀ (T : PredI) (fc : FcI) (ρ : Asg),
      (∀ F ∈ Γ, sat ⟨T, fc⟩ F ρ) ↔
        (∀ r ∈ P, r.head = .falsity → ruleSat ⟨T, T, fc⟩ .there r) ∧
        ∀ q ∈ Theory.preds (tauStar P), q ∉ ins → DefHolds P T fc q.symbol q.arity := by
  obtain ⟨Γ, hΓ, hmem⟩ := completion_tauStar P ins
  refine ⟨Γ, hΓ, fun T fc ρ => ?_⟩
  have hle : ∀ {r a ch}, r ∈ P → HeadOf r a ch → a.args.length ≤ (chooseFreshGlobals P).length :=
    fun hr hh => headOf_le_globals hr hh
  constructor
  · refine fun hall => ⟨fun r hr hh => ?_, fun q hq hqi => ?_⟩
    · exact (constraint_sem T fc r hh ρ).mp (hall _ ((hmem _).mpr (Or.inl ⟨r, hr, hh, rfl⟩)))
    · by_cases hex : ∃ r ∈ P, ∃ a ch, HeadOf r a ch ∧ a.predicate = q
      · obtain ⟨r, hr, a, ch, hh, rfl⟩ := hex
        obtain ⟨fs, hfs⟩ := entry_exists (chooseFreshGlobals P) hr hh
        refine (entry_sem P T fc ρ _ fs hfs a (hle hr hh) rfl).mp
          (hall _ ((hmem _).mpr (Or.inr (Or.inl ⟨_, hfs, ?_, rfl⟩))))
        exact tauHeadAtom_predicate a _ (hle hr hh) ▸ hqi
      · have hno : ∀ r ∈ P, ∀ a ch, HeadOf r a ch → a.predicate ≠ q :=
          fun r hr a ch hh e => hex ⟨r, hr, a, ch, hh, e⟩
        exact (emptyDefinition_defHolds T fc ρ hno).mp
          (hall _ ((hmem _).mpr (Or.inr (Or.inr ⟨q, hq, hqi, hno, rfl⟩))))
  · rintro ⟨hcons, hdefs⟩ F hF
    rcases (hmem F).mp hF with ⟨r, hr, hh, rfl⟩ | ⟨e, he, hin, rfl⟩ | ⟨p, hp', hin, hno, rfl⟩
    · exact (constraint_sem T fc r hh ρ).mpr (hcons r hr hh)
    · obtain ⟨r, hr, a, ch, hh, hA⟩ := entry_head he
      rw [hA, tauHeadAtom_predicate a _ (hle hr hh)] at hin
      have hq : a.predicate ∈ Theory.preds (tauStar P) := tauStar_preds P rfl _
        (mem_program_preds.mpr ⟨r, hr, mem_rule_preds.mpr (Or.inl (headOf_predicate hh))⟩)
      exact (entry_sem P T fc ρ e.1 e.2 he a (hle hr hh) hA).mpr (hdefs _ hq hin)
    · exact (emptyDefinition_defHolds T fc ρ hno).mpr (hdefs p hp' hin)

theorem defHolds_iff_supported (P : Program) (ins : List Pred) (hins : ∀ q ∈ ins, q ∉ P.headPreds)
    (T : PredI) (fc : FcI) (hsig : ∀ q a, T q a → (⟨q, a.length⟩ : Pred) ∈ ext P.preds ins)
    (S : List Pred) (hS : ∀ q ∈ P.preds, q ∈ S) :
    ((∀ r ∈ P, r.head = .falsity → ruleSat ⟨T, T, fc⟩ .there r) ∧
        ∀ q ∈ S, q ∉ ins → DefHolds P T fc q.symbol q.arity) ↔
      progSat ⟨T, T, fc⟩ .there P ∧ Supported P ins T fc := by
  constructor
  · rintro ⟨hcons, hdefs⟩
    -- a rule with a head is the right-to-left half of the definition of its head predicate
    have hrule : ∀ {r a ch}, r ∈ P → HeadOf r a ch → ruleSat ⟨T, T, fc⟩ .there r := by
      intro r a ch hr hh
      have hq := mem_program_preds.mpr ⟨r, hr, mem_rule_preds.mpr (Or.inl (headOf_predicate hh))⟩
      have hdef : DefHolds P T fc a.pred a.args.length := hdefs _ (hS _ hq) fun hin =>
        hins _ hin ((mem_headPreds P _).mpr ⟨r, hr, headOf_predicate hh⟩)
      have inst : ∀ σ ds, headInst ⟨T, T, fc⟩ .there ch a.pred a.args r.body σ ds := fun σ ds hv hb hc =>
        (hdef ds (valsList_length hv)).mpr ⟨r, hr, a, ch, hh, rfl, rfl, σ, hv, hb, hc⟩
      exact (ruleSat_iff_headInst _ .there ch a r hh.head_eq).mpr fun σ ds => ⟨inst σ ds, inst σ ds⟩
    refine ⟨fun r hr => ?_, fun q ds hT hni => ?_⟩
    · cases hh : r.head with
      | falsity => exact hcons r hr hh
      | basic a => exact hrule hr (Or.inl ⟨hh, rfl⟩)
      | choice a => exact hrule hr (Or.inr ⟨hh, rfl⟩)
    · have hq : (⟨q, ds.length⟩ : Pred) ∈ P.preds := (mem_ext.mp (hsig q ds hT)).resolve_right hni
      obtain ⟨r, hr, a, ch, hh, hpa, _, σ, hv, hb, _⟩ := (hdefs _ (hS _ hq) hni ds rfl).mp hT
      exact ⟨r, hr, a, hh.head, hpa, σ, hv, hb⟩
  · rintro ⟨hmodel, hsupp⟩
    refine ⟨fun r hr _ => hmodel r hr, fun q _ hqi ds hds => ⟨fun hT => ?_, ?_⟩⟩
    · obtain ⟨r, hr, a, hh, hpa, σ, hv, hb⟩ := hsupp q.symbol ds hT (hds ▸ hqi)
      obtain ⟨ch, hh⟩ := headOf_of_head hh
      exact ⟨r, hr, a, ch, hh, hpa, (valsList_length hv).symm.trans hds, σ, hv, hb, fun _ => hT⟩
    · rintro ⟨r, hr, a, ch, hh, hpa, _, σ, hv, hb, hc⟩
      exact hpa ▸ ((ruleSat_iff_headInst _ .there ch a r hh.head_eq).mp (hmodel r hr) σ ds).1 hv hb (hpa ▸ hc)

/-- tightness plays no part here -/
theorem completion_supported (P : Program) (ins : List Pred) (hins : ∀ q ∈ ins, q ∉ P.headPreds) :
    ∃ Γ, completion (tauStar P) ins = some Γ ∧
      ∀ (T : PredI) (fc : FcI) (ρ : Asg),
        (∀ q a, T q a → (⟨q, a.length⟩ : Pred) ∈ ext P.preds ins) →
        ((∀ F ∈ Γ, sat ⟨T, fc⟩ F ρ) ↔ progSat ⟨T, T, fc⟩ .there P ∧ Supported P ins T fc) := by
  obtain ⟨Γ, hΓ, h⟩ := completion_tauStar_sat P ins
  exact ⟨Γ, hΓ, fun T fc ρ hsig => (h T fc ρ).trans
    (defHolds_iff_supported P ins hins T fc hsig _ (tauStar_preds P rfl))⟩

/-- **C04: the completion of the tau\* theory of a tight program has exactly the stable models.** -/
theorem completion_tight (P : Program) (ins : List Pred) (htight : isTight P = true)
    (hp : globalsPanic P = false) (hins : ∀ q ∈ ins, q ∉ P.headPreds) :
    ∃ Γ, completion (tauStar P) ins = some Γ ∧
      ∀ (T : PredI) (fc : FcI) (ρ : Asg),
        (∀ q a, T q a → (⟨q, a.length⟩ : Pred) ∈ ext P.preds ins) →
        ((∀ F ∈ Γ, sat ⟨T, fc⟩ F ρ) ↔ Stable P ins T fc) := by
  obtain ⟨Γ, hΓ, h⟩ := completion_supported P ins hins
  exact ⟨Γ, hΓ, fun T fc ρ hsig => (h T fc ρ hsig).trans (tight_stable_iff_supported P htight ins T fc).symm⟩

end Anthem
