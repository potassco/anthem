/-
  The Pratt parser inverts the printer's parenthesisation: pest's Pratt algorithm (Model/AspParse
  `prattExpr`/`prattLoop`) on the pair sequence that the printed text of `t` lexes to yields `t`.
-/
import AnthemModel.Model.AspParse
import AnthemModel.Model.Print
import AnthemModel.Proofs.PrattScheme
namespace Anthem.Asp

/-- the pair sequence of the printed term: a parenthesised operand is one primary pair -/
def flat : Term → List Tok
  | .pre p => [.prim (.pre p)]
  | .var x => [.prim (.var x)]
  | .neg a => .neg :: (if 0 < a.prec then [.prim a] else flat a)
  | .bin op l r =>
    (if (Term.bin op l r).prec < l.prec then [.prim l] else flat l) ++ [.op op] ++
      (if ((Term.bin op l r).prec < r.prec || (Term.bin op l r).prec = r.prec) then [.prim r] else flat r)

/-- binding power of the top operator of an unparenthesised term. Without an infix operator on top the
    term can be read at any power: 100 stands for that (any number above 50, the power of `-`, would do). -/
def Term.bpTop : Term → Nat
  | .bin op _ _ => op.bp
  | _ => 100

/- The numbers 40, 20 and 60 are read off the two tables `Op.bp` (Model/AspParse) and `Term.prec`
   (Model/Print): a changed precedence in either fails here first. -/
theorem Op.bp_le (o : Op) : o.bp ≤ 40 := by cases o <;> decide
theorem Op.bp_ge (o : Op) : 20 ≤ o.bp := by cases o <;> decide

/-- the printer's precedence numbers reverse the parser's binding powers -/
theorem bin_prec (op : Op) (l r : Term) : 10 * (Term.bin op l r).prec + op.bp = 60 := by
  cases op <;> rfl

theorem prec_le_one_of_not_bin : ∀ t : Term, (∀ op l r, t ≠ .bin op l r) → t.prec ≤ 1
  | .pre (.num n), _ => by show (if n ≥ 1 then 1 else 0) ≤ 1; split <;> decide
  | .pre .inf, _ | .pre .sup, _ | .pre (.sym _), _ | .var _, _ | .neg _, _ => Nat.zero_le 1
  | .bin op l r, h => absurd rfl (h op l r)

/-- an unparenthesised left operand binds at least as tightly as its parent -/
theorem left_unparen (op : Op) (l r : Term) (h : ¬ (Term.bin op l r).prec < l.prec) : op.bp ≤ l.bpTop := by
  cases l with
  | bin op' l' r' =>
    have h1 := bin_prec op (.bin op' l' r') r
    have h2 := bin_prec op' l' r'
    show op.bp ≤ op'.bp
    omega
  | pre _ | var _ | neg _ => exact Nat.le_trans op.bp_le (show 40 ≤ 100 by decide)

/-- an unparenthesised right operand binds strictly tighter than its parent -/
theorem right_unparen (op : Op) (l r : Term)
    (h : ¬ ((Term.bin op l r).prec < r.prec || (Term.bin op l r).prec = r.prec) = true) : op.bp < r.bpTop := by
  cases r with
  | bin op' l' r' =>
    have h1 := bin_prec op l (.bin op' l' r')
    have h2 := bin_prec op' l' r'
    simp only [Bool.or_eq_true, decide_eq_true_eq] at h
    show op.bp < op'.bp
    omega
  | pre _ | var _ | neg _ => exact Nat.lt_of_le_of_lt op.bp_le (show 40 < 100 by decide)

theorem neg_unparen (a : Term) (h : ¬ 0 < a.prec) : a.bpTop = 100 := by
  cases a with
  -- a binary term has `prec ≥ 2`: `10 * prec + bp = 60` and `bp ≤ 40`
  | bin op l r => have := bin_prec op l r; have := op.bp_le; omega
  | pre _ | var _ | neg _ => rfl

def termPratt : Pratt Tok Term Op Unit where
  prim := .prim
  op := .op
  pre := fun _ => .neg
  bin := .bin
  un := fun _ => .neg
  bp := Op.bp
  rbp := Op.bp
  -- `-` has power 50 (`Tok.lbp?`), and pest reads the operand of a prefix operator at its power minus one
  prebp := 49
  expr := prattExpr
  loop := prattLoop
  bp_le := fun o => Nat.le_trans o.bp_le (by decide)
  expr_prim := fun f m t r => by simp only [prattExpr]
  expr_pre := fun f m _ r => by simp only [prattExpr]; cases prattExpr f 49 r <;> rfl
  loop_nil := fun f m t => by simp only [prattLoop]
  loop_op := fun f m t o r => by simp only [prattLoop]; cases prattExpr f o.bp r <;> rfl

theorem flat_reads (t : Term) : termPratt.Reads (flat t) t t.bpTop t.bpTop := by
  induction t with
  | pre p => exact termPratt.reads_prim _ _ _
  | var x => exact termPratt.reads_prim _ _ _
  | neg a iha =>
    have harg := iha.arg (0 < a.prec) (top' := 100) (bound' := 100) fun h => by
      rw [neg_unparen a h]; exact ⟨Nat.le_refl _, Nat.le_refl _⟩
    -- the operand of `-` is read at `prebp = 49`
    exact harg.pre () (show 49 < 100 by decide) (show 49 ≤ 100 by decide) _ _
  | bin op l r ihl ihr =>
    simp only [flat, List.append_assoc, List.cons_append, List.nil_append]
    exact (ihl.arg ((Term.bin op l r).prec < l.prec) fun h => ⟨left_unparen op l r h, left_unparen op l r h⟩).bin
      (ihr.arg (((Term.bin op l r).prec < r.prec || (Term.bin op l r).prec = r.prec) = true)
        (top' := op.bp + 1) fun h => ⟨right_unparen op l r h, Nat.le_of_lt (right_unparen op l r h)⟩)
      op (Nat.le_refl _) (Nat.le_refl _) (Nat.lt_succ_self _) (Nat.le_refl _) (Nat.le_refl _)

theorem pratt_flat_eq (t : Term) : pratt (flat t) = some t := by
  have h0 : 0 < t.bpTop := by
    cases t with
    | bin op _ _ => exact Nat.lt_of_lt_of_le (by decide) op.bp_ge
    | pre _ | var _ | neg _ => exact (by decide : 0 < 100)
  have h : prattExpr (2 * (flat t).length + 2) 0 (flat t) = some (t, []) := (flat_reads t).at_zero h0
  simp only [pratt, h]

end Anthem.Asp
