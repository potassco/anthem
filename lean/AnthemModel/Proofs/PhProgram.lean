/-
  Placeholders, part 4: the program analyses do not see symbolic constants, and the translated theory of a
  program with placeholders is, under an interpretation `J`, equivalent to the completion of tau* of the
  program in which every placeholder is replaced by the precomputed term that `J` assigns to it - the
  reference reading `v(Π)` of a program with placeholders.
-/
import AnthemModel.Proofs.PhTau
import AnthemModel.Proofs.PhCompletion
import AnthemModel.Proofs.ExternalSem
namespace Anthem
open Asp

theorem Atom.predicate_substSym (ν : String → Pre) (a : Asp.Atom) : (a.substSym ν).predicate = a.predicate := by
  simp [Asp.Atom.substSym, Asp.Atom.predicate]

theorem Head.predicate_substSym (ν : String → Pre) (h : Head) : (h.substSym ν).predicate = h.predicate := by
  cases h <;> simp [Asp.Head.substSym, Head.predicate, Atom.predicate_substSym]

theorem BodyAtom.preds_substSym (ν : String → Pre) (f : BodyAtom) : (f.substSym ν).preds = f.preds := by
  cases f with
  | lit l => simp [BodyAtom.substSym, BodyAtom.preds, Atom.predicate_substSym]
  | cmp rel l r => rfl

theorem BodyAtom.posPreds_substSym (ν : String → Pre) (f : BodyAtom) : (f.substSym ν).posPreds = f.posPreds := by
  cases f with
  | lit l =>
    obtain ⟨s, a⟩ := l
    cases s <;> simp [BodyAtom.substSym, BodyAtom.posPreds, Atom.predicate_substSym]
  | cmp rel l r => rfl

theorem bodyPreds_substSym (ν : String → Pre) (b : List BodyAtom) : bodyPreds (b.map (BodyAtom.substSym ν)) = bodyPreds b := by
  unfold bodyPreds
  exact foldl_map_congr _ _ _ (fun acc f => by rw [BodyAtom.preds_substSym]) b []

theorem bodyPosPreds_substSym (ν : String → Pre) (b : List BodyAtom) :
    bodyPosPreds (b.map (BodyAtom.substSym ν)) = bodyPosPreds b := by
  unfold bodyPosPreds
  exact foldl_map_congr _ _ _ (fun acc f => by rw [BodyAtom.posPreds_substSym]) b []

theorem Rule.preds_substSym (ν : String → Pre) (r : Rule) : (r.substSym ν).preds = r.preds := by
  simp only [Asp.Rule.substSym, Rule.preds, Head.predicate_substSym, bodyPreds_substSym]

theorem Program.preds_substSym (ν : String → Pre) (p : Program) : (p.substSym ν).preds = p.preds := by
  unfold Asp.Program.substSym Program.preds
  exact foldl_map_congr _ _ _ (fun acc r => by rw [Rule.preds_substSym]) p []

theorem Program.headPreds_substSym (ν : String → Pre) (p : Program) : (p.substSym ν).headPreds = p.headPreds := by
  unfold Asp.Program.substSym Program.headPreds
  exact foldl_map_congr _ _ _ (fun acc r => by simp only [headPredStep, Asp.Rule.substSym, Head.predicate_substSym]) p []

theorem positiveEdges_substSym (ν : String → Pre) (p : Program) : positiveEdges (p.substSym ν) = positiveEdges p := by
  unfold positiveEdges Asp.Program.substSym
  rw [List.flatMap_map]
  congr 1
  funext r
  simp only [Asp.Rule.substSym, Head.predicate_substSym, bodyPosPreds_substSym]

theorem privateEdges_substSym (ν : String → Pre) (p : Program) (priv : List Pred) :
    privateEdges (p.substSym ν) priv = privateEdges p priv := by
  unfold privateEdges Asp.Program.substSym
  rw [List.flatMap_map]
  congr 1
  funext r
  simp only [Asp.Rule.substSym, Head.predicate_substSym, bodyPreds_substSym]

theorem isTight_substSym (ν : String → Pre) (p : Program) : isTight (p.substSym ν) = isTight p := by
  unfold isTight
  rw [Program.preds_substSym, positiveEdges_substSym]

theorem hasPrivateRecursion_substSym (ν : String → Pre) (p : Program) (priv : List Pred) :
    hasPrivateRecursion (p.substSym ν) priv = hasPrivateRecursion p priv := by
  unfold hasPrivateRecursion
  rw [Program.preds_substSym, privateEdges_substSym]
  congr 1
  unfold Asp.Program.substSym
  rw [List.any_map]
  congr 1
  funext r
  obtain ⟨h, b⟩ := r
  cases h <;> simp [Asp.Rule.substSym, Asp.Head.substSym, Atom.predicate_substSym]

def Dom.toPre : Dom → Pre
  | .inf => .inf
  | .num n => .num n
  | .sym s => .sym s
  | .sup => .sup

theorem Dom.toDom_toPre (d : Dom) : (Dom.toPre d).toDom = d := by cases d <;> rfl

/-- the precomputed term an interpretation assigns to a symbolic constant: the value of the
    function constant that `replace_placeholders` puts in its place, the constant itself if it is no
    placeholder -/
def phNu (m : PlaceholderMap) (fc : FcI) (s : String) : Pre :=
  match m.find? (·.1 = s) with
  | some (_, .general) => Dom.toPre (fc s .general)
  | some (_, .integer) => .num (fc s .integer).toInt
  | some (_, .symbol) => .sym (fc s .symbol).toStr
  | none => .sym s

theorem phTheta_eval (m : PlaceholderMap) (fc : FcI) (s : String) (ρ : Asg) :
    (phTheta m s).eval fc ρ = (thetaOf (phNu m fc) s).eval fc ρ := by
  unfold phTheta thetaOf phNu
  rw [preToGTerm_eval]
  cases m.find? (·.1 = s) with
  | none => rfl
  | some x =>
    obtain ⟨n, srt⟩ := x
    cases srt
    · simp only [GTerm.eval, Dom.toDom_toPre]
    · rfl
    · rfl

theorem phTheta_closed (m : PlaceholderMap) : ClosedSubst (phTheta m) := by
  intro s
  unfold phTheta
  cases m.find? (·.1 = s) with
  | none => exact ⟨rfl, rfl⟩
  | some x => obtain ⟨n, srt⟩ := x; cases srt <;> exact ⟨rfl, rfl⟩

theorem map_replacePlaceholders_eq (m : PlaceholderMap) (Γ : Theory) :
    Γ.map (Formula.replacePlaceholders m) = Γ.map (Formula.substSym (phTheta m)) :=
  List.map_congr_left fun F _ => Formula.replacePlaceholders_eq m F

theorem missingOutputs_substSym (t : ExternalTask) (ν : String → Pre) (p : Program) :
    missingOutputs t (p.substSym ν) = missingOutputs t p := by
  unfold missingOutputs
  rw [Program.preds_substSym]

theorem theoryTranslate_ok_ph (t : ExternalTask) (m : PlaceholderMap) (fuel : Nat) (p : Program) (th : Theory)
    (h : theoryTranslate t m fuel p = .ok th) :
    ∀ (J : Interp), ∃ Γ, completion (tauStar (p.substSym (phNu m J.fc))) t.userGuide.inputs = some Γ ∧
      ∀ (ρ : Asg), (∀ F ∈ th, sat J F ρ) ↔ (∀ F ∈ Γ, sat J F ρ) ∧ OutputsEmpty t p J.pred := by
  obtain ⟨Γ0, hc, _, hsem⟩ := theoryTranslate_inv t m fuel p th h
  intro J
  rw [map_replacePlaceholders_eq, completion_substSym (phTheta_closed m)] at hc
  obtain ⟨Γ, hΓ, rfl⟩ := Option.map_eq_some_iff.mp hc
  refine ⟨Γ.map (Formula.substSym (thetaOf (phNu m J.fc))), ?_, fun ρ => ?_⟩
  · rw [tauStar_substSym, completion_substSym (thetaOf_closed _), hΓ]; rfl
  · rw [hsem J ρ]
    refine and_congr ?_ Iff.rfl
    simp only [List.forall_mem_map]
    exact forall_congr' fun F => imp_congr_right fun _ =>
      sat_substSym_congr J _ _ (fun s ρ' => phTheta_eval m J.fc s ρ') F ρ

end Anthem
