/-
  C02 at the level of the two sides ("hence if every emitted problem is a theorem the claimed relation
  holds"). For any specification side: if no interpretation is a difference witness, then forward every
  admissible family of extents has the public part of a stable model of the program, and backward the readings
  of the program's stable models satisfy the side's conclusions. Uses `private_extents_exist`, `joint_reading`.
-/
import AnthemModel.Proofs.ExternalSemPh
import AnthemModel.Proofs.PrivateExist
import AnthemModel.Proofs.RenameFresh
import AnthemModel.Props.C11
import AnthemModel.Proofs.SimplifyShape
import AnthemModel.Proofs.ExternalValid
namespace Anthem
open Asp C11

theorem headPredicate_mem_preds : ∀ (F : Formula) (p : Pred), headPredicate F = some p → p ∈ F.preds := by
  intro F
  induction F with
  | atomic a => intro p h; simp [headPredicate] at h
  | not f _ => intro p h; simp [headPredicate] at h
  | bin c l r _ _ =>
    intro p h
    cases c <;> try (simp [headPredicate] at h)
    cases l with
    | atomic a =>
      cases a with
      | atom a =>
        simp only [headPredicate, Option.some.injEq] at h
        subst h
        simp only [Formula.preds, AtomicF.preds]
        exact mem_ext.mpr (Or.inl (by simp))
      | _ => simp [headPredicate] at h
    | _ => simp [headPredicate] at h
  | quant q vs f ih =>
    intro p h
    cases q
    · simp only [headPredicate] at h; exact ih p h
    · simp [headPredicate] at h

theorem defHolds_congr (P : Program) (T1 T2 : PredI) (fc : FcI) (q : Pred) (hq : q ∈ P.preds)
    (h : ∀ b ∈ P.preds, ∀ ds : List Dom, ds.length = b.arity → (T1 b.symbol ds ↔ T2 b.symbol ds)) :
    DefHolds P T1 fc q.symbol q.arity ↔ DefHolds P T2 fc q.symbol q.arity := by
  unfold DefHolds
  refine forall_congr' fun ds => imp_congr_right fun hds => ?_
  have hq12 := h q hq ds hds
  rw [hq12]
  refine iff_congr Iff.rfl ?_
  refine exists_congr fun r => and_congr_right fun hr => exists_congr fun a => exists_congr fun ch =>
    and_congr_right fun hh => and_congr_right fun hpa => and_congr_right fun hla =>
    exists_congr fun σ => and_congr_right fun hv => ?_
  refine and_congr ?_ Iff.rfl
  refine bodySat_congr_preds T1 T2 fc .there σ r.body ?_
  intro b hb ds' hds'
  refine h b (mem_program_preds.mpr ⟨r, hr, ?_⟩) ds' hds'
  unfold Rule.preds; rw [mem_ext]; exact Or.inr hb

theorem controlTranslate_roles (pub : List Pred) : ∀ (th : Theory) (init : Specification × Nat),
    ∀ a ∈ (th.foldl (controlStep pub) init).1, a ∈ init.1 ∨
      (a.formula ∈ th ∧ (a.role = .assumption → ∃ p, headPredicate a.formula = some p ∧ p ∉ pub)) := by
  intro th init a ha
  obtain ⟨l, hl, hm, hall⟩ := controlTranslate_fold pub th init
  rw [hl] at ha
  rcases List.mem_append.mp ha with ha | ha
  · exact Or.inl ha
  · exact Or.inr ⟨hm ▸ List.mem_map_of_mem ha, (hall a ha).2.2.mp⟩

theorem theoryTranslate_nosimp (t : ExternalTask) (fuel : Nat) (p : Program) (th : Theory)
    (hsimp : t.simplify = false) (h : theoryTranslate t [] fuel p = .ok th) :
    ∃ Γ, completion (tauStar p) t.userGuide.inputs = some Γ ∧
      th = Γ ++ (missingOutputs t p).map fun q => completeDefinition (atomFromPred q) [] := by
  obtain ⟨Γ, hΓ, hth, _⟩ := theoryTranslate_inv t [] fuel p th h
  rw [(List.map_congr_left fun F _ => replacePlaceholders_nil F).trans (List.map_id _)] at hΓ
  exact ⟨Γ, hΓ, hth hsimp⟩

theorem completion_shapes (P : Program) (ins : List Pred) (Γ : Theory)
    (hΓ : completion (tauStar P) ins = some Γ) : ∀ F ∈ Γ,
      (∃ X : Formula, X.pos = true ∧ F = (Formula.bin .imp X .fls).universalClosure) ∨
      (∃ A fs, F = completeDefinition A fs) := by
  obtain ⟨Γ', hΓ', hmem⟩ := completion_tauStar P ins
  cases hΓ.symm.trans hΓ'
  intro F hF
  rcases (hmem F).mp hF with ⟨r, _, _, rfl⟩ | ⟨e, _, _, rfl⟩ | ⟨p, _, _, _, rfl⟩
  · exact Or.inl ⟨tauBody r.body, pos_tauBody r.body, rfl⟩
  · exact Or.inr ⟨_, _, rfl⟩
  · exact Or.inr ⟨_, _, rfl⟩

theorem headPredicate_substSym (θ : String → GTerm) : ∀ F : Formula, headPredicate (F.substSym θ) = headPredicate F := by
  intro F
  induction F with
  | atomic a => rfl
  | not f _ => rfl
  | bin c l r _ _ =>
    cases c <;> try rfl
    cases l with
    | atomic a =>
      cases a with
      | atom a => simp [Formula.substSym, AtomicF.substSym, headPredicate, Atom.predicate]
      | _ => rfl
    | _ => rfl
  | quant q vs f ih =>
    cases q
    · simp only [Formula.substSym, headPredicate]; exact ih
    · rfl

theorem pos_substSym (θ : String → GTerm) : ∀ F : Formula, (F.substSym θ).pos = F.pos := by
  intro F
  induction F with
  | atomic a => rfl
  | not f ih => simp only [Formula.substSym, Formula.pos]; exact ih
  | bin c l r ihl ihr => simp only [Formula.substSym, Formula.pos, ihl, ihr]
  | quant q vs f ih => simp only [Formula.substSym, Formula.pos]; exact ih

theorem iffRoot_substSym (θ : String → GTerm) (A : Atom) (F : Formula) (h : IffRoot (.atomic (.atom A)) F) :
    IffRoot (.atomic (.atom ⟨A.pred, A.args.map (GTerm.substSym θ)⟩)) (F.substSym θ) := by
  rcases h with ⟨r, rfl⟩ | ⟨vs, r, rfl⟩
  · exact Or.inl ⟨_, rfl⟩
  · exact Or.inr ⟨_, _, rfl⟩

theorem headPredicate_simplify_substSym_completion (P : Program) (ins : List Pred)
    (Γ : Theory) (hΓ : completion (tauStar P) ins = some Γ) (F : Formula) (hF : F ∈ Γ)
    {θ : String → GTerm} (hθ : ClosedSubst θ) (fuel : Nat) :
    headPredicate (simplifyWith .classic .fixpoint fuel (F.substSym θ)).1 = headPredicate F := by
  rcases completion_shapes P ins Γ hΓ F hF with ⟨X, hX, rfl⟩ | ⟨A, fs, rfl⟩
  · rw [universalClosure_substSym hθ]
    have : (Formula.bin .imp X .fls).substSym θ = Formula.bin .imp (X.substSym θ) .fls := rfl
    rw [this, headPredicate_pos _ (pos_simplify_constraint _ (by rw [pos_substSym]; exact hX) fuel)]
    unfold Formula.universalClosure
    rw [headPredicate_quantify]
    rfl
  · have hroot := iffRoot_substSym θ A _ (iffRoot_completeDefinition A fs)
    rw [headPredicate_iffRoot _ _ (iffRoot_simplify _ fuel _ hroot), headPredicate_completeDefinition]
    simp only [Atom.predicate, List.length_map]

theorem theoryTranslate_members (t : ExternalTask) (m : PlaceholderMap) (fuel : Nat) (p : Program) (th : Theory)
    (h : theoryTranslate t m fuel p = .ok th) :
    ∃ Γ, completion (tauStar p) t.userGuide.inputs = some Γ ∧ ∀ F' ∈ th,
      ∃ F ∈ Γ.map (Formula.substSym (phTheta m)) ++
          (missingOutputs t p).map (fun q => completeDefinition (atomFromPred q) []),
        F' = F ∨ F' = (simplifyWith .classic .fixpoint fuel F).1 := by
  unfold theoryTranslate at h
  rcases ite_eq_cases h with ⟨_, h⟩ | ⟨_, h⟩
  · cases h
  rw [map_replacePlaceholders_eq] at h
  dsimp only at h
  rw [completion_substSym (phTheta_closed m)] at h
  cases hc : completion (tauStar p) t.userGuide.inputs with
  | none => rw [hc] at h; cases h
  | some Γ =>
    refine ⟨Γ, rfl, ?_⟩
    rw [hc] at h
    rcases ite_eq_cases h with ⟨_, h⟩ | ⟨_, h⟩
    · cases hs : simplifyTheory .classic fuel
          (Γ.map (Formula.substSym (phTheta m)) ++
            (missingOutputs t p).map fun q => completeDefinition (atomFromPred q) []) with
      | none => rw [hs] at h; cases h
      | some th' =>
        rw [hs] at h
        cases h
        intro F' hF'
        rw [simplifyTheory_some hs] at hF'
        obtain ⟨F, hF, rfl⟩ := List.mem_map.mp hF'
        exact ⟨F, hF, Or.inr rfl⟩
    · cases h
      exact fun F' hF' => ⟨F', hF', Or.inl rfl⟩

theorem side_assumptions_hold (t : ExternalTask) (m : PlaceholderMap) (fuel : Nat) (p : Program) (th : Theory)
    (h : theoryTranslate t m fuel p = .ok th) (R : PredI) (fc : FcI) (ρ : Asg)
    (hdef : ∀ q ∈ p.preds, q ∉ t.userGuide.publicPreds →
      DefHolds (p.substSym (phNu m fc)) R fc q.symbol q.arity) :
    ∀ a ∈ controlTranslate t.userGuide.publicPreds th, a.role = .assumption → sat ⟨R, fc⟩ a.formula ρ := by
  obtain ⟨Γ, hΓ, hmem⟩ := theoryTranslate_members t m fuel p th h
  have hΓν : completion (tauStar (p.substSym (phNu m fc))) t.userGuide.inputs =
      some (Γ.map (Formula.substSym (thetaOf (phNu m fc)))) := by
    rw [tauStar_substSym, completion_substSym (thetaOf_closed _), hΓ]; rfl
  intro a0 ha0 hrole
  unfold controlTranslate at ha0
  rcases controlTranslate_roles t.userGuide.publicPreds th ([], 0) a0 ha0 with hnil | ⟨hmemth, hroleinfo⟩
  · cases hnil
  obtain ⟨q, hq, hnq⟩ := hroleinfo hrole
  obtain ⟨F, hF, hFF⟩ := hmem _ hmemth
  rcases List.mem_append.mp hF with hin | hin
  · obtain ⟨F0, hF0, rfl⟩ := List.mem_map.mp hin
    have hq' : headPredicate F0 = some q := by
      rcases hFF with e | e
      · rw [← headPredicate_substSym (phTheta m), ← e]; exact hq
      · rw [← headPredicate_simplify_substSym_completion p _ Γ hΓ F0 hF0 (phTheta_closed m) fuel, ← e]; exact hq
    have hsat : sat ⟨R, fc⟩ a0.formula ρ ↔ sat ⟨R, fc⟩ (F0.substSym (thetaOf (phNu m fc))) ρ := by
      have h1 : sat ⟨R, fc⟩ a0.formula ρ ↔ sat ⟨R, fc⟩ (F0.substSym (phTheta m)) ρ := by
        rcases hFF with e | e
        · rw [e]
        · rw [e]; exact C07.portfolio_sound_classic .fixpoint fuel _ ⟨R, fc⟩ ρ
      rw [h1]
      exact sat_substSym_congr ⟨R, fc⟩ _ _ (fun s ρ' => phTheta_eval m fc s ρ') F0 ρ
    rw [hsat, completion_defs_sem (p.substSym (phNu m fc)) t.userGuide.inputs
      rfl _ hΓν _ (List.mem_map.mpr ⟨F0, hF0, rfl⟩) q
      (by rw [headPredicate_substSym]; exact hq')]
    exact hdef q (completion_preds _ _ Γ hΓ _ hF0 q (headPredicate_mem_preds _ q hq')) hnq
  · -- the empty definition of a missing output predicate has a public head
    exfalso
    obtain ⟨o, ho, hoF⟩ := List.mem_map.mp hin
    have hq' : q = o := by
      have : headPredicate a0.formula = some o := by
        rcases hFF with e | e
        · rw [e, ← hoF, headPredicate_completeDefinition, atomFromPred_predicate]
        · rw [e, ← hoF, headPredicate_simplify_completeDefinition, atomFromPred_predicate]
      rw [hq] at this
      injection this
    subst hq'
    unfold missingOutputs at ho
    simp only [List.mem_filter, decide_eq_true_eq] at ho
    exact hnq (mem_ext.mpr (Or.inr ho.1))

theorem mem_public_or_private (t : ExternalTask) (p : Program) {q : Pred} (hq : q ∈ ext p.preds t.userGuide.inputs) :
    q ∈ ext t.userGuide.publicPreds (p.preds.filter (· ∉ t.userGuide.publicPreds)) := by
  by_cases hp : q ∈ t.userGuide.publicPreds
  · exact mem_ext.mpr (Or.inl hp)
  · rcases mem_ext.mp hq with hq | hq
    · exact mem_ext.mpr (Or.inr (List.mem_filter.mpr ⟨hq, decide_eq_true hp⟩))
    · exact absurd (mem_ext.mpr (Or.inl hq)) hp

theorem produces_of_stable (t : ExternalTask) (hdisj : ∀ q ∈ t.userGuide.inputs, q ∉ t.userGuide.outputs)
    (p : Program) (ν : String → Pre) (X TX : PredI) (fc : FcI)
    (hst : Stable (p.substSym ν) t.userGuide.inputs TX fc)
    (hX : ∀ (q : String) (ds : List Dom),
      (⟨q, ds.length⟩ : Pred) ∈ ext t.userGuide.publicPreds (p.preds.filter (· ∉ t.userGuide.publicPreds)) →
      (X q ds ↔ TX q ds)) :
    Stable (p.substSym ν) t.userGuide.inputs (restrictTo (ext p.preds t.userGuide.inputs) X) fc ∧ OutputsEmpty t p X := by
  have hsig : ∀ q ds, TX q ds → (⟨q, ds.length⟩ : Pred) ∈ ext p.preds t.userGuide.inputs := by
    have := stable_sig _ t.userGuide.inputs TX fc hst
    rwa [Program.preds_substSym] at this
  have hrestr : restrictTo (ext p.preds t.userGuide.inputs) X = TX := by
    funext q ds
    exact propext ⟨fun hh => (hX q ds (mem_public_or_private t p hh.2)).mp hh.1,
      fun hh => ⟨(hX q ds (mem_public_or_private t p (hsig q ds hh))).mpr hh, hsig q ds hh⟩⟩
  refine ⟨hrestr ▸ hst, fun q hq ds hds hT => ?_⟩
  -- an output predicate that the program does not mention is no input either, so `TX` is empty on it
  obtain ⟨hout, hnp⟩ := List.mem_filter.mp hq
  have hmem := hsig q.symbol ds ((hX q.symbol ds (by rw [hds]; exact mem_ext.mpr (Or.inl (mem_ext.mpr (Or.inr hout))))).mp hT)
  rw [hds] at hmem
  rcases mem_ext.mp hmem with h1 | h1
  · exact of_decide_eq_true hnp h1
  · exact hdisj q h1 hout

theorem public_of_produces (t : ExternalTask) (p : Program) (X TL : PredI) (hOE : OutputsEmpty t p X)
    (hX : ∀ (q : String) (ds : List Dom), (⟨q, ds.length⟩ : Pred) ∈ t.userGuide.publicPreds → (X q ds ↔ TL q ds)) :
    ∀ (q : String) (ds : List Dom), (⟨q, ds.length⟩ : Pred) ∈ t.userGuide.publicPreds →
      (restrictTo (ext p.preds t.userGuide.inputs) X q ds ↔ TL q ds) := by
  intro q ds hq
  by_cases hin : (⟨q, ds.length⟩ : Pred) ∈ ext p.preds t.userGuide.inputs
  · exact (and_iff_left hin).trans (hX q ds hq)
  · -- a public predicate outside the program's vocabulary is an output the program does not mention
    have hmiss : (⟨q, ds.length⟩ : Pred) ∈ missingOutputs t p := by
      rcases mem_ext.mp hq with h1 | h1
      · exact absurd (mem_ext.mpr (Or.inr h1)) hin
      · exact List.mem_filter.mpr ⟨h1, decide_eq_true fun hp => hin (mem_ext.mpr (Or.inl hp))⟩
    exact ⟨fun hh => absurd hh.2 hin, fun hT => absurd ((hX q ds hq).mpr hT) (hOE _ hmiss ds rfl)⟩

theorem ugAss_congr (t : ExternalTask) (hpre : precheck t = none) (T TL : PredI) (fc : FcI) (ρ : Asg)
    (hT : ∀ (q : String) (ds : List Dom), (⟨q, ds.length⟩ : Pred) ∈ t.userGuide.publicPreds → (T q ds ↔ TL q ds))
    (hug : ∀ a ∈ t.userGuide.formulas, a.role = .assumption → sat ⟨TL, fc⟩ (a.formula.replacePlaceholders t.phMap) ρ) :
    ∀ a ∈ t.ugAss, sat ⟨T, fc⟩ a.formula ρ := by
  intro a ha
  refine (sat_congr_preds fc T TL _ ρ fun q hq ds hds => ?_).mpr ((ugAss_sat_iff t ⟨TL, fc⟩ ρ).mpr hug a ha)
  exact hT q.symbol ds (by rw [hds]; exact mem_ext.mpr (Or.inl (Outline.ugAss_preds t hpre a ha q hq)))

theorem side_assumptions_of_extents (t : ExternalTask) (m : PlaceholderMap) (fuel : Nat) (p : Program) (th : Theory)
    (h : theoryTranslate t m fuel p = .ok th) (X T0 : PredI) (fc : FcI) (ρ : Asg)
    (hdef : ∀ q ∈ p.preds.filter (· ∉ t.userGuide.publicPreds), DefHolds (p.substSym (phNu m fc)) T0 fc q.symbol q.arity)
    (hX : ∀ (q : String) (ds : List Dom),
      (⟨q, ds.length⟩ : Pred) ∈ ext t.userGuide.publicPreds (p.preds.filter (· ∉ t.userGuide.publicPreds)) →
      (X q ds ↔ T0 q ds)) :
    ∀ a ∈ controlTranslate t.userGuide.publicPreds th, a.role = .assumption → sat ⟨X, fc⟩ a.formula ρ := by
  refine side_assumptions_hold t m fuel p th h X fc ρ fun q hqP hnq => ?_
  refine (defHolds_congr _ _ T0 fc q (by rw [Program.preds_substSym]; exact hqP) fun b hb ds hds => ?_).mpr
    (hdef q (List.mem_filter.mpr ⟨hqP, decide_eq_true hnq⟩))
  rw [Program.preds_substSym] at hb
  exact hX b.symbol ds (by rw [hds]; exact mem_public_or_private t p (mem_ext.mpr (Or.inl hb)))

theorem specPrivate_programs (t : ExternalTask) (PL : Program) (hspec : t.specification = .inl PL) :
    t.specPrivate = PL.preds.filter (· ∉ t.userGuide.publicPreds) := by
  unfold ExternalTask.specPrivate
  rw [hspec]

/-- the difference-witness condition of `external_outline_sound_valid`, for a given specification side -/
def WitnessOutline (t : ExternalTask) (left : List SAnn) (ΓR : Theory) (J : Interp) (ρ : Asg) : Prop :=
  (∀ a ∈ t.ugAss, sat J a.formula ρ) ∧
  (∀ a ∈ left, lStable a = true → sat J a.formula ρ) ∧
  (∀ a ∈ rightSide t ΓR, a.role = .assumption → sat J a.formula ρ) ∧
  (((t.direction = .universal ∨ t.direction = .forward) ∧
      (∀ a ∈ left, lFwdPrem a = true → sat J a.formula ρ) ∧
      ¬ (Stable (t.program.substSym (phNu t.phMap J.fc)) t.userGuide.inputs
        (restrictTo (ext t.program.preds t.userGuide.inputs)
          (renamedInterp t.clashMap J.pred)) J.fc ∧
        OutputsEmpty t t.program (renamedInterp t.clashMap J.pred))) ∨
   ((t.direction = .universal ∨ t.direction = .backward) ∧
      (Stable (t.program.substSym (phNu t.phMap J.fc)) t.userGuide.inputs
        (restrictTo (ext t.program.preds t.userGuide.inputs)
          (renamedInterp t.clashMap J.pred)) J.fc ∧
        OutputsEmpty t t.program (renamedInterp t.clashMap J.pred)) ∧
      ∃ a ∈ left, lBwdConc a = true ∧ ¬ sat J a.formula ρ))

/-- the program's private predicates get the extents their definitions prescribe (`private_extents_exist`);
    one family carries both readings (`joint_reading`) -/
theorem program_side_of_public (t : ExternalTask) (hpre : precheck t = none) (fuel : Nat) (ΓR : Theory)
    (hR : theoryTranslate t t.phMap fuel t.program = .ok ΓR) (TL : PredI) (fc : FcI) (ρ : Asg) :
    ∃ T : PredI,
      (∀ (q : String) (ds : List Dom), (⟨q, ds.length⟩ : Pred) ∈ ext t.userGuide.publicPreds t.specPrivate →
        (T q ds ↔ TL q ds)) ∧
      (∀ a ∈ rightSide t ΓR, a.role = .assumption → sat ⟨T, fc⟩ a.formula ρ) ∧
      (Stable (t.program.substSym (phNu t.phMap fc)) t.userGuide.inputs
          (restrictTo (ext t.program.preds t.userGuide.inputs) (renamedInterp t.clashMap T)) fc ∧
        OutputsEmpty t t.program (renamedInterp t.clashMap T) →
        ∃ TR : PredI, Stable (t.program.substSym (phNu t.phMap fc)) t.userGuide.inputs TR fc ∧
          ∀ (q : String) (ds : List Dom), (⟨q, ds.length⟩ : Pred) ∈ t.userGuide.publicPreds → (TR q ds ↔ TL q ds)) := by
  obtain ⟨_, hrecR, _⟩ := C11.programError_none (precheck_inv t hpre).2.1
  have hpubpriv : ∀ q, q ∈ t.userGuide.publicPreds → q ∉ t.progPrivate :=
    fun q hq hp => of_decide_eq_true (List.mem_filter.mp hp).2 hq
  obtain ⟨TR0, hTR0agree, hTR0def⟩ := private_extents_exist (t.program.substSym (phNu t.phMap fc)) t.progPrivate
    (by rw [hasPrivateRecursion_substSym]; exact hrecR) TL fc
  obtain ⟨T, hTL, hTR⟩ := joint_reading t TL TR0 (fun q a hq => (hTR0agree q a (hpubpriv _ hq)).symm)
  refine ⟨T, hTL, fun a ha hrole => ?_, fun hPR => ⟨_, hPR.1, ?_⟩⟩
  · obtain ⟨a0, ha0, rfl⟩ := List.mem_map.mp ha
    rw [sat_renamePreds]
    exact side_assumptions_of_extents t t.phMap fuel t.program ΓR hR _ TR0 fc ρ hTR0def hTR a0 ha0 hrole
  · exact public_of_produces t t.program _ TL hPR.2 fun q ds hq =>
      (hTR q ds (mem_ext.mpr (Or.inl hq))).trans (hTR0agree q ds (hpubpriv _ hq))

theorem forward_of_no_witness (t : ExternalTask) (hpre : precheck t = none) (fuel : Nat) (left : List SAnn) (ΓR : Theory)
    (hR : theoryTranslate t t.phMap fuel t.program = .ok ΓR)
    (hdir : t.direction = .universal ∨ t.direction = .forward)
    (hsound : ∀ (J : Interp) (ρ : Asg), ¬ WitnessOutline t left ΓR J ρ) (TL : PredI) (fc : FcI) (ρ : Asg)
    (hug : ∀ a ∈ t.userGuide.formulas, a.role = .assumption → sat ⟨TL, fc⟩ (a.formula.replacePlaceholders t.phMap) ρ)
    (hleft : ∀ T : PredI, (∀ (q : String) (ds : List Dom),
        (⟨q, ds.length⟩ : Pred) ∈ ext t.userGuide.publicPreds t.specPrivate → (T q ds ↔ TL q ds)) →
      ∀ a ∈ left, lStable a = true ∨ lFwdPrem a = true → sat ⟨T, fc⟩ a.formula ρ) :
    ∃ TR : PredI, Stable (t.program.substSym (phNu t.phMap fc)) t.userGuide.inputs TR fc ∧
      ∀ (q : String) (ds : List Dom), (⟨q, ds.length⟩ : Pred) ∈ t.userGuide.publicPreds → (TR q ds ↔ TL q ds) := by
  obtain ⟨T, hTL, hright, hfin⟩ := program_side_of_public t hpre fuel ΓR hR TL fc ρ
  refine hfin (Classical.byContradiction fun hPR => hsound ⟨T, fc⟩ ρ ?_)
  exact ⟨ugAss_congr t hpre T TL fc ρ (fun q ds hq => hTL q ds (mem_ext.mpr (Or.inl hq))) hug,
    fun a ha hs => hleft T hTL a ha (Or.inl hs), hright,
    Or.inl ⟨hdir, fun a ha hs => hleft T hTL a ha (Or.inr hs), hPR⟩⟩

theorem backward_of_no_witness (t : ExternalTask) (hbyp : t.bypassTightness = false) (hpre : precheck t = none)
    (fuel : Nat) (left : List SAnn) (ΓR : Theory) (hR : theoryTranslate t t.phMap fuel t.program = .ok ΓR)
    (hdir : t.direction = .universal ∨ t.direction = .backward)
    (hsound : ∀ (J : Interp) (ρ : Asg), ¬ WitnessOutline t left ΓR J ρ) (T TR : PredI) (fc : FcI) (ρ : Asg)
    (hTR : ∀ (q : String) (ds : List Dom),
      (⟨q, ds.length⟩ : Pred) ∈ ext t.userGuide.publicPreds t.progPrivate → (renamedInterp t.clashMap T q ds ↔ TR q ds))
    (hstR : Stable (t.program.substSym (phNu t.phMap fc)) t.userGuide.inputs TR fc)
    (hug : ∀ a ∈ t.ugAss, sat ⟨T, fc⟩ a.formula ρ)
    (hstab : ∀ a ∈ left, lStable a = true → sat ⟨T, fc⟩ a.formula ρ) :
    ∀ a ∈ left, lBwdConc a = true → sat ⟨T, fc⟩ a.formula ρ := by
  intro a0 ha0 hconc
  have hPR := produces_of_stable t (precheck_inv t hpre).1 t.program (phNu t.phMap fc)
    (renamedInterp t.clashMap T) TR fc hstR hTR
  -- every formula of the program side holds, in particular its assumptions
  have hall := (rightSide_stable_ph t hbyp hpre fuel ΓR hR ⟨T, fc⟩ ρ).mpr hPR
  exact Classical.byContradiction fun hns => hsound ⟨T, fc⟩ ρ
    ⟨hug, hstab, fun a ha _ => hall a ha, Or.inr ⟨hdir, hPR, a0, ha0, hconc, hns⟩⟩

theorem spec_vocabulary (t : ExternalTask) (S : Specification) (hspec : t.specification = .inr S) :
    ∀ a ∈ S, ∀ q ∈ a.formula.preds, q ∈ ext t.userGuide.publicPreds t.specPrivate := by
  intro a ha q hq
  by_cases hp : q ∈ t.userGuide.publicPreds
  · exact mem_ext.mpr (Or.inl hp)
  · refine mem_ext.mpr (Or.inr ?_)
    unfold ExternalTask.specPrivate specPreds
    rw [hspec]
    exact List.mem_filter.mpr ⟨(mem_foldl_ext (fun a : SAnn => a.preds) S [] q).mpr (Or.inr ⟨a, ha, hq⟩), decide_eq_true hp⟩

theorem spec_sat_congr (t : ExternalTask) (S : Specification) (hspec : t.specification = .inr S) (T TL : PredI)
    (fc : FcI) (ρ : Asg)
    (hTL : ∀ (q : String) (ds : List Dom), (⟨q, ds.length⟩ : Pred) ∈ ext t.userGuide.publicPreds t.specPrivate →
      (T q ds ↔ TL q ds)) :
    ∀ a ∈ S, (sat ⟨T, fc⟩ (a.formula.replacePlaceholders t.phMap) ρ ↔
      sat ⟨TL, fc⟩ (a.formula.replacePlaceholders t.phMap) ρ) := by
  intro a ha
  refine sat_congr_preds fc T TL _ ρ fun q hq ds hds => ?_
  rw [Formula.replacePlaceholders_eq, Formula.preds_substSym] at hq
  exact hTL q.symbol ds (by rw [hds]; exact spec_vocabulary t S hspec a ha q hq)

theorem leftSide_stable_ph (t : ExternalTask) (PL : Program) (hspec : t.specification = .inl PL)
    (hbyp : t.bypassTightness = false) (hpre : precheck t = none)
    (fuel : Nat) (ΓL : Theory) (hL : theoryTranslate t t.phMap fuel PL = .ok ΓL) (J : Interp) (ρ : Asg) :
    (∀ a ∈ leftSide t ΓL, sat J a.formula ρ) ↔
      Stable (PL.substSym (phNu t.phMap J.fc)) t.userGuide.inputs
        (restrictTo (ext PL.preds t.userGuide.inputs) J.pred) J.fc ∧ OutputsEmpty t PL J.pred :=
  (forall_controlTranslate _ ΓL fun F => sat J F ρ).trans
    (theory_stable_ph t hbyp PL t.specPrivate (precheck_programs t PL hspec hpre).2 fuel ΓL hL J.pred J.fc ρ)

theorem witnessOutline_of_programs (t : ExternalTask) (PL : Program) (hspec : t.specification = .inl PL)
    (hbyp : t.bypassTightness = false) (hpre : precheck t = none)
    (fuel : Nat) (ΓL ΓR : Theory) (hL : theoryTranslate t t.phMap fuel PL = .ok ΓL)
    (hR : theoryTranslate t t.phMap fuel t.program = .ok ΓR) (J : Interp) (ρ : Asg)
    (hw : WitnessPrograms t PL ΓL ΓR J ρ) : WitnessOutline t (leftSide t ΓL) ΓR J ρ := by
  obtain ⟨hug, hcases⟩ := hw
  have huL : UnivSA (leftSide t ΓL) := fun a ha => ((controlTranslate_spec _ ΓL).1 a ha).2
  rcases hcases with ⟨hdir, hPL, hra, hnPR⟩ | ⟨hdir, hPR, hla, hnPL⟩
  · have hall := (leftSide_stable_ph t PL hspec hbyp hpre fuel ΓL hL J ρ).mpr hPL
    exact ⟨(ugAss_sat_iff t J ρ).mpr hug, fun a ha _ => hall a ha, hra, Or.inl ⟨hdir, fun a ha _ => hall a ha, hnPR⟩⟩
  · have hallR := (rightSide_stable_ph t hbyp hpre fuel ΓR hR J ρ).mpr hPR
    refine ⟨(ugAss_sat_iff t J ρ).mpr hug, ?_, fun a ha _ => hallR a ha, Or.inr ⟨hdir, hPR, ?_⟩⟩
    · intro a ha hs
      refine hla a ha ?_
      simp only [lStable, Bool.and_eq_true, decide_eq_true_eq] at hs
      exact hs.1
    · have hnall : ¬ ∀ a ∈ leftSide t ΓL, sat J a.formula ρ :=
        fun hall => hnPL ((leftSide_stable_ph t PL hspec hbyp hpre fuel ΓL hL J ρ).mp hall)
      refine Classical.byContradiction fun hne => hnall fun a ha => ?_
      refine Classical.byContradiction fun hs => hne ⟨a, ha, ?_, hs⟩
      obtain ⟨hd, hr⟩ := huL a ha
      rcases hr with hr | hr
      · simp [lBwdConc, hd, hr]
      · exact absurd (hla a ha hr) hs

theorem Formula.renameProps_nil : ∀ F : Formula, F.renameProps [] = F
  | .atomic (.atom a) => by
    simp only [Formula.renameProps, renameProp, List.find?_nil, ite_self]
  | .atomic .tru | .atomic .fls | .atomic (.cmp _ _) => rfl
  | .not f => congrArg Formula.not (renameProps_nil f)
  | .bin c l r => by rw [Formula.renameProps, renameProps_nil l, renameProps_nil r]
  | .quant q vs f => congrArg (Formula.quant q vs) (renameProps_nil f)

theorem renameConflictingSymbols_of_nil (p : Problem) (h : p.propRenaming = []) :
    p.renameConflictingSymbols = p := by
  unfold Problem.renameConflictingSymbols
  simp only [h, Formula.renameProps_nil, List.map_id']

theorem rename_id_pair {p q : Problem} (h : p.propRenaming = [] ∧ q.propRenaming = []) :
    p.renameConflictingSymbols = p ∧ q.renameConflictingSymbols = q :=
  ⟨renameConflictingSymbols_of_nil p h.1, renameConflictingSymbols_of_nil q h.2⟩

def Outcome.get {α} [Inhabited α] : Outcome α → α
  | .ok a => a
  | _ => default

/-- lets the examples of Props/C02 name a translated theory (`(theoryTranslate ..).get`) without
    computing it by `cases` on `theoryTranslate .. = .ok Γ`, which is slow to elaborate; the theory is
    evaluated inside `decide +kernel` -/
theorem Outcome.get_of_eq_ok {α} [Inhabited α] {x : Outcome α} {a : α} (h : x = .ok a) : a = x.get := by
  rw [h]; rfl

end Anthem
