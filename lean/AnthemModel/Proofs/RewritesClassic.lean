/-
  The classic rewrites (C07): extend_quantifier_scope (an HT equivalence as well),
  substitute_defined_variables, simplify_transitive_equality, restrict_quantifier_domain: each keeps
  the classical meaning and adds no free variable.
-/
import AnthemModel.Proofs.SubstFull
import AnthemModel.Proofs.RewritesBasic
import AnthemModel.Proofs.ChooseFresh
namespace Anthem

theorem ht_of_allUpd_disjoint (M : HTI) (g : Formula) (w : World) {vs : List Var} {ρ τ : Asg}
    (hτ : AllUpd vs ρ τ) (hd : ∀ v ∈ vs, ¬ g.FV v) : ht M g w τ ↔ ht M g w ρ :=
  ht_agree M g w τ ρ (fun u hu => hτ.1 u (fun hm => hd u hm hu))

theorem bindQ_and_const {q : Quant} {vs : List Var} {P G : Asg → Prop} {ρ : Asg}
    (hG : ∀ τ, AllUpd vs ρ τ → (G τ ↔ G ρ)) :
    bindQ q vs (fun τ => P τ ∧ G τ) ρ ↔ bindQ q vs P ρ ∧ G ρ := by
  obtain ⟨τ0, h0⟩ := exists_allUpd vs ρ
  cases q
  · simp only [bindQ, bindAll_iff]
    exact ⟨fun h => ⟨fun τ hτ => (h τ hτ).1, (hG _ h0).mp (h _ h0).2⟩,
      fun ⟨h1, h2⟩ τ hτ => ⟨h1 τ hτ, (hG τ hτ).mpr h2⟩⟩
  · simp only [bindQ, bindEx_iff]
    exact ⟨fun ⟨τ, hτ, h1, h2⟩ => ⟨⟨τ, hτ, h1⟩, (hG τ hτ).mp h2⟩,
      fun ⟨⟨τ, hτ, h1⟩, h2⟩ => ⟨τ, hτ, h1, (hG τ hτ).mpr h2⟩⟩

theorem bindQ_or_const {q : Quant} {vs : List Var} {P G : Asg → Prop} {ρ : Asg}
    (hG : ∀ τ, AllUpd vs ρ τ → (G τ ↔ G ρ)) :
    bindQ q vs (fun τ => P τ ∨ G τ) ρ ↔ bindQ q vs P ρ ∨ G ρ := by
  obtain ⟨τ0, h0⟩ := exists_allUpd vs ρ
  cases q
  · simp only [bindQ, bindAll_iff]
    constructor
    · intro h
      by_cases hgρ : G ρ
      · exact Or.inr hgρ
      · exact Or.inl fun τ hτ => (h τ hτ).resolve_right fun hh => hgρ ((hG τ hτ).mp hh)
    · exact fun h τ hτ => h.imp (fun h => h τ hτ) (hG τ hτ).mpr
  · simp only [bindQ, bindEx_iff]
    exact ⟨fun ⟨τ, hτ, h⟩ => h.imp (fun h => ⟨τ, hτ, h⟩) (hG τ hτ).mp,
      fun h => h.elim (fun ⟨τ, hτ, h⟩ => ⟨τ, hτ, Or.inl h⟩) fun h => ⟨_, h0, Or.inr ((hG _ h0).mpr h)⟩⟩

theorem extendScope_sem (M : HTI) (w : World) (ρ : Asg) (q : Quant) (vs : List Var) (f g : Formula)
    (hd : ∀ v ∈ vs, ¬ g.FV v) {c : Conn} (hc : c = .and ∨ c = .or) :
    (ht M (.quant q vs (.bin c f g)) w ρ ↔ ht M (.bin c (.quant q vs f) g) w ρ) ∧
    (ht M (.quant q vs (.bin c g f)) w ρ ↔ ht M (.bin c g (.quant q vs f)) w ρ) := by
  have hg : ∀ τ, AllUpd vs ρ τ → (ht M g w τ ↔ ht M g w ρ) := fun τ hτ => ht_of_allUpd_disjoint M g w hτ hd
  have ha := bindQ_and_const (q := q) (P := ht M f w) hg
  have ho := bindQ_or_const (q := q) (P := ht M f w) hg
  have ha' := (bindQ_congr (q := q) (vs := vs) (fun τ => and_comm (a := ht M g w τ) (b := ht M f w τ)) ρ).trans
    (ha.trans and_comm)
  have ho' := (bindQ_congr (q := q) (vs := vs) (fun τ => or_comm (a := ht M g w τ) (b := ht M f w τ)) ρ).trans
    (ho.trans or_comm)
  rcases hc with rfl | rfl <;> simp only [ht, ht_quant]
  · exact ⟨ha, ha'⟩
  · exact ⟨ho, ho'⟩

theorem not_any_mem_fv {vs : List Var} {g : Formula} (h : ¬ (vs.any (· ∈ g.fv) = true)) :
    ∀ v ∈ vs, ¬ g.FV v := fun v hv hfv =>
  h (List.any_eq_true.mpr ⟨v, hv, decide_eq_true (Formula.mem_fv.mpr hfv)⟩)

theorem extendQuantifierScope_cases (F : Formula) :
    extendQuantifierScope F = F ∨ ∃ c q vs f g, (c = .and ∨ c = .or) ∧ (∀ v ∈ vs, ¬ g.FV v) ∧
      ((F = .bin c (.quant q vs f) g ∧ extendQuantifierScope F = .quant q vs (.bin c f g)) ∨
       (F = .bin c g (.quant q vs f) ∧ extendQuantifierScope F = .quant q vs (.bin c g f))) := by
  generalize hG : extendQuantifierScope F = G
  unfold extendQuantifierScope at hG
  split at hG
  · next c q vs f rhs =>
    split at hG
    · next hc =>
      split at hG
      · exact Or.inl hG.symm
      · next hany => exact Or.inr ⟨c, q, vs, f, rhs, hc, not_any_mem_fv hany, Or.inl ⟨rfl, hG.symm⟩⟩
    · exact Or.inl hG.symm
  · next c lhs q vs f _ =>
    split at hG
    · next hc =>
      split at hG
      · exact Or.inl hG.symm
      · next hany => exact Or.inr ⟨c, q, vs, f, lhs, hc, not_any_mem_fv hany, Or.inr ⟨rfl, hG.symm⟩⟩
    · exact Or.inl hG.symm
  · exact Or.inl hG.symm

/-- An HT equivalence, hence a classical one: the side the block is moved over has none of the bound
    variables free, so its truth value is the same under every re-assignment of the block. -/
theorem extendQuantifierScope_keeps (F : Formula) : HTKeeps (extendQuantifierScope F) F := by
  rcases extendQuantifierScope_cases F with e | ⟨c, q, vs, f, g, hc, hd, ⟨rfl, e⟩ | ⟨rfl, e⟩⟩ <;> rw [e]
  · exact HTKeeps.congr.refl F
  · exact ⟨fun M _ w ρ => (extendScope_sem M w ρ q vs f g hd hc).1, fun v hv => hv.1.imp (fun h => ⟨h, hv.2⟩) id⟩
  · exact ⟨fun M _ w ρ => (extendScope_sem M w ρ q vs f g hd hc).2, fun v hv => hv.1.imp id (fun h => ⟨h, hv.2⟩)⟩

theorem sat_conjoinInvert (I : Interp) (ρ : Asg) : ∀ f : Formula,
    (sat I f ρ ↔ ∀ c ∈ conjoinInvert f, sat I c ρ) := by
  intro f
  induction f with
  | bin c l r ihl ihr =>
    cases c
    case and => exact (and_congr ihl ihr).trans List.forall_mem_append.symm
    all_goals exact (List.forall_mem_singleton (p := fun c => sat I c ρ)).symm
  | atomic _ | not _ _ | quant _ _ _ _ => exact (List.forall_mem_singleton (p := fun c => sat I c ρ)).symm

theorem mem_individuals : ∀ (gs : List Guard) (t : GTerm) (p : GTerm × Rel × GTerm), p ∈ individuals t gs →
    (p.1 = t ∨ ∃ g ∈ gs, p.1 = g.term) ∧ (∃ g ∈ gs, p.2.2 = g.term) ∧
      ∀ fc ρ, cmpChain fc ρ (t.eval fc ρ) gs → p.2.1.holds (p.1.eval fc ρ) (p.2.2.eval fc ρ) := by
  intro gs
  induction gs with
  | nil => exact fun t p hp => nomatch hp
  | cons g gs ih =>
    intro t p hp
    rcases List.mem_cons.mp hp with rfl | hp
    · exact ⟨Or.inl rfl, ⟨g, List.mem_cons_self, rfl⟩, fun fc ρ h => h.1⟩
    · obtain ⟨h1, ⟨g', hg', h2⟩, h3⟩ := ih g.term p hp
      refine ⟨Or.inr ?_, ⟨g', List.mem_cons_of_mem _ hg', h2⟩, fun fc ρ h => h3 fc ρ h.2⟩
      exact h1.elim (fun e => ⟨g, List.mem_cons_self, e⟩) fun ⟨g'', hg'', e⟩ => ⟨g'', List.mem_cons_of_mem _ hg'', e⟩

theorem definitionOk_true {v : Var} {x term : GTerm} (hok : definitionOk v x term = true) :
    x = v.toTerm ∧ SortCompatible v term := by
  obtain ⟨vn, vs⟩ := v
  unfold definitionOk at hok
  -- by the sort of `v`, `SortCompatible v term` asks nothing (general), `term = .int _`, `term = .symb _`
  split at hok
  · next h => cases h; cases of_decide_eq_true hok; exact ⟨rfl, And.intro (fun h => nomatch h) (fun h => nomatch h)⟩
  · next h => cases h; cases of_decide_eq_true hok; exact ⟨rfl, And.intro (fun _ => ⟨_, rfl⟩) (fun h => nomatch h)⟩
  · next h => cases h; cases of_decide_eq_true hok; exact ⟨rfl, And.intro (fun h => nomatch h) (fun _ => ⟨_, rfl⟩)⟩
  · exact nomatch hok

theorem definitionCandidate_some {v : Var} {x term d : GTerm}
    (h : definitionCandidate v x term = some d) :
    d = term ∧ x = v.toTerm ∧ SortCompatible v term ∧ v ∉ term.vars := by
  unfold definitionCandidate at h
  split at h
  · next hcond =>
    simp only [Bool.and_eq_true, Bool.not_eq_true', decide_eq_false_iff_not] at hcond
    exact ⟨(Option.some.inj h).symm, (definitionOk_true hcond.1).1, (definitionOk_true hcond.1).2, hcond.2⟩
  · exact nomatch h

theorem findDefinition_some {v : Var} {f : Formula} {d : GTerm} (h : findDefinition v f = some d) :
    ∃ t gs l r, Formula.atomic (.cmp t gs) ∈ conjoinInvert f ∧ (l, Rel.eq, r) ∈ individuals t gs ∧
      ((l = v.toTerm ∧ d = r) ∨ (r = v.toTerm ∧ d = l)) ∧ SortCompatible v d ∧ v ∉ d.vars := by
  induction f with
  | atomic a =>
    cases a with
    | tru | fls | atom _ => exact nomatch h
    | cmp t gs =>
      obtain ⟨⟨x, term⟩, hmem, hcand⟩ := List.exists_of_findSome?_eq_some h
      obtain ⟨rfl, hx, hcompat, hnv⟩ := definitionCandidate_some hcand
      obtain ⟨⟨l, r⟩, hfm, hsw⟩ := List.mem_flatMap.mp hmem
      obtain ⟨⟨l', rel, r'⟩, hind, hsome⟩ := List.mem_filterMap.mp hfm
      dsimp only at hsome
      split at hsome
      · next hre =>
        cases hre; cases hsome
        refine ⟨t, gs, _, _, List.mem_singleton.mpr rfl, hind, ?_, hcompat, hnv⟩
        rcases List.mem_cons.mp hsw with e | e
        · cases e; exact Or.inl ⟨hx, rfl⟩
        · cases List.eq_of_mem_singleton e; exact Or.inr ⟨hx, rfl⟩
      · exact nomatch hsome
  | not f _ | quant q vs f _ => exact nomatch h
  | bin c l r ihl ihr =>
    cases c with
    | and =>
      simp only [findDefinition] at h
      cases hl : findDefinition v l with
      | some d' =>
        rw [hl] at h; cases h
        obtain ⟨t, gs, a, b, hm, rest⟩ := ihl hl
        exact ⟨t, gs, a, b, List.mem_append_left _ hm, rest⟩
      | none =>
        rw [hl] at h
        obtain ⟨t, gs, a, b, hm, rest⟩ := ihr h
        exact ⟨t, gs, a, b, List.mem_append_right _ hm, rest⟩
    | or | imp | rimp | iff => exact nomatch h

theorem findDefinition_spec {v : Var} {f : Formula} {d : GTerm} (h : findDefinition v f = some d) :
    (∀ (I : Interp) (ρ : Asg), sat I f ρ → v.toTerm.eval I.fc ρ = d.eval I.fc ρ) ∧
      SortCompatible v d ∧ ∀ w ∈ d.vars, f.FV w := by
  obtain ⟨t, gs, l, r, hmem, hind, hor, hc, _⟩ := findDefinition_some h
  obtain ⟨hl, ⟨g, hg, hr⟩, hrel⟩ := mem_individuals gs t _ hind
  refine ⟨fun I ρ hs => ?_, hc, fun w hw => FV_conjoinInvert hmem (mem_cmp_vars.mpr ?_)⟩
  · have h2 : l.eval I.fc ρ = r.eval I.fc ρ := hrel I.fc ρ ((sat_conjoinInvert I ρ f).mp hs _ hmem)
    rcases hor with ⟨rfl, rfl⟩ | ⟨rfl, rfl⟩
    · exact h2
    · exact h2.symm
  · rcases hor with ⟨_, rfl⟩ | ⟨_, rfl⟩
    · exact Or.inr ⟨g, hg, hr ▸ hw⟩
    · exact hl.elim (fun e => Or.inl (e ▸ hw)) fun ⟨g', hg', e⟩ => Or.inr ⟨g', hg', e ▸ hw⟩

theorem eval_inSort_of_compat {v : Var} {d : GTerm} (hc : SortCompatible v d) (fc : FcI) (ρ : Asg) :
    (d.eval fc ρ).inSort v.sort := by
  obtain ⟨vn, vs⟩ := v
  cases vs
  · trivial
  · obtain ⟨si, rfl⟩ := hc.1 rfl; simp [GTerm.eval, Dom.inSort]
  · obtain ⟨ss, rfl⟩ := hc.2 rfl; simp [GTerm.eval, Dom.inSort]

theorem definedStep_keeps {vs : List Var} {v : Var} (hv : v ∈ vs) (b : Formula) :
    (∀ (I : Interp) (ρ : Asg), bindEx vs (sat I (definedStep b v)) ρ ↔ bindEx vs (sat I b) ρ) ∧
      FVLe (definedStep b v) b := by
  unfold definedStep
  split
  · next d hd =>
    obtain ⟨hent, hcompat, hvars⟩ := findDefinition_spec hd
    refine ⟨fun I ρ => ?_, fun u hu => (subst_FV b v d hcompat u hu).elim (fun h => h.1) (hvars u)⟩
    simp only [bindEx_iff, sat_subst I b v d hcompat]
    constructor
    · exact fun ⟨τ, hτ, hs⟩ => ⟨_, hτ.set hv (eval_inSort_of_compat hcompat I.fc τ), hs⟩
    · rintro ⟨τ, hτ, hs⟩
      -- `τ` already gives `v` the value of its definition
      have h1 := hent I τ hs
      rw [toTerm_eval, zval_of_inSort (hτ.2 v hv)] at h1
      exact ⟨τ, hτ, by rw [← h1, Asg.set_self]; exact hs⟩
  · exact ⟨fun _ _ => Iff.rfl, FVLe.refl b⟩

theorem substituteDefinedVariables_cases (F : Formula) :
    substituteDefinedVariables F = F ∨ ∃ vs f, F = .quant .ex vs f ∧
      substituteDefinedVariables F = (vs.reverse.foldl definedStep f).quantify .ex vs := by
  unfold substituteDefinedVariables
  split
  · next vs f => exact Or.inr ⟨vs, f, rfl, rfl⟩
  · exact Or.inl rfl

/-- Sound because `find_definition` answers only with a term `t` that a conjunct of the body equates
    with `X`, that does not mention `X` and has the sort of `X`: the body entails `X = t`, so
    `exists X F` and `exists X F[X := t]` agree by the substitution lemma. -/
theorem substituteDefinedVariables_keeps (F : Formula) :
    ClassKeeps (substituteDefinedVariables F) F := by
  rcases substituteDefinedVariables_cases F with e | ⟨vs, f, rfl, e⟩ <;> rw [e]
  · exact ClassKeeps.congr.refl F
  · have key : ∀ l : List Var, (∀ v ∈ l, v ∈ vs) → ∀ b : Formula,
        (∀ (I : Interp) (ρ : Asg), bindEx vs (sat I (l.foldl definedStep b)) ρ ↔ bindEx vs (sat I b) ρ) ∧
          FVLe (l.foldl definedStep b) b := by
      intro l
      induction l with
      | nil => exact fun _ b => ⟨fun _ _ => Iff.rfl, FVLe.refl b⟩
      | cons v l ih =>
        intro hl b
        have h1 := definedStep_keeps (hl v List.mem_cons_self) b
        have h2 := ih (fun u hu => hl u (List.mem_cons_of_mem _ hu)) (definedStep b v)
        exact ⟨fun I ρ => (h2.1 I ρ).trans (h1.1 I ρ), h2.2.trans h1.2⟩
    have := key vs.reverse (fun v hv => List.mem_reverse.mp hv) f
    exact ⟨fun I ρ => (sat_quantify ..).trans (this.1 I ρ),
      fun v hv => have hv' := (quantify_FV ..).mp hv; ⟨this.2 v hv'.1, hv'.2⟩⟩

theorem asVar?_some {t : GTerm} {v : Var} (h : t.asVar? = some v) : t = v.toTerm := by
  cases t with
  | var x => simp [GTerm.asVar?] at h; subst h; rfl
  | int it => cases it <;> simp [GTerm.asVar?] at h; subst h; rfl
  | symb st => cases st <;> simp [GTerm.asVar?] at h; subst h; rfl
  | inf | sup | fc _ => simp [GTerm.asVar?] at h

theorem isVarIn_some {vars : List Var} {t : GTerm} {v : Var} (h : isVarIn vars t = some v) :
    v ∈ vars ∧ t = v.toTerm := by
  unfold isVarIn at h
  cases ha : t.asVar? with
  | none => simp [ha] at h
  | some w =>
    simp only [ha] at h
    split at h
    · injection h with h; subst h; exact ⟨by assumption, asVar?_some ha⟩
    · cases h

theorem subsort_compat {k d : Var} (h : subsort k d = true) : SortCompatible d k.toTerm := by
  obtain ⟨kn, ks⟩ := k
  obtain ⟨dn, ds⟩ := d
  -- below an integer (symbol) variable `subsort` has only integer (symbol) ones, whose term is `.int _` (`.symb _`)
  refine ⟨fun (e : ds = .integer) => ?_, fun (e : ds = .symbol) => ?_⟩ <;> subst e <;> cases ks
  · cases h
  · exact ⟨.var kn, rfl⟩
  · cases h
  · cases h
  · cases h
  · exact ⟨.var kn, rfl⟩

def EqHolds (fc : FcI) (ρ : Asg) (c : Cmp) : Prop := cmpChain fc ρ (c.1.eval fc ρ) c.2

theorem eqHolds_single (fc : FcI) (ρ : Asg) (l r : GTerm) :
    EqHolds fc ρ (l, [⟨.eq, r⟩]) ↔ l.eval fc ρ = r.eval fc ρ := by
  simp [EqHolds, cmpChain, Rel.holds]

/-- what `transitive_equality` guarantees about its answer `(k, d, dt)` -/
def TEFacts (c1 c2 : Cmp) (vars : List Var) (k d : Var) (dt : Cmp) : Prop :=
  k ∈ vars ∧ d ∈ vars ∧ subsort k d = true ∧
  ∃ (kc : Cmp) (t : GTerm), ((kc = c1 ∧ dt = c2) ∨ (kc = c2 ∧ dt = c1)) ∧
    ∀ (fc : FcI) (ρ : Asg), (EqHolds fc ρ kc ↔ k.toTerm.eval fc ρ = t.eval fc ρ) ∧
      (EqHolds fc ρ dt ↔ d.toTerm.eval fc ρ = t.eval fc ρ)

theorem pick_facts {v1 v2 : Var} {c1 c2 : Cmp} {vars : List Var} {k d : Var} {dt : Cmp}
    (hv1 : v1 ∈ vars) (hv2 : v2 ∈ vars) (t : GTerm)
    (h1 : ∀ (fc : FcI) (ρ : Asg), EqHolds fc ρ c1 ↔ v1.toTerm.eval fc ρ = t.eval fc ρ)
    (h2 : ∀ (fc : FcI) (ρ : Asg), EqHolds fc ρ c2 ↔ v2.toTerm.eval fc ρ = t.eval fc ρ)
    (h : pickKeepDrop v1 v2 c1 c2 = some (k, d, dt)) : TEFacts c1 c2 vars k d dt := by
  unfold pickKeepDrop at h
  split at h
  · next hs =>
    cases h
    exact ⟨hv1, hv2, hs, c1, t, Or.inl ⟨rfl, rfl⟩, fun fc ρ => ⟨h1 fc ρ, h2 fc ρ⟩⟩
  · split at h
    · next hs =>
      cases h
      exact ⟨hv2, hv1, hs, c2, t, Or.inr ⟨rfl, rfl⟩, fun fc ρ => ⟨h2 fc ρ, h1 fc ρ⟩⟩
    · exact nomatch h

theorem transitiveEquality_some {l1 r1 l2 r2 : GTerm} {vars : List Var} {k d : Var} {dt : Cmp}
    (h : transitiveEquality (l1, [⟨.eq, r1⟩]) (l2, [⟨.eq, r2⟩]) vars = some (k, d, dt)) :
    TEFacts (l1, [⟨.eq, r1⟩]) (l2, [⟨.eq, r2⟩]) vars k d dt := by
  -- each of the four successful branches finds a variable side in either equation and a common other side
  have key : ∀ {v1 v2 : Var} {a1 a2 t : GTerm}, isVarIn vars a1 = some v1 → isVarIn vars a2 = some v2 →
      (∀ fc ρ, EqHolds fc ρ (l1, [⟨.eq, r1⟩]) ↔ a1.eval fc ρ = t.eval fc ρ) →
      (∀ fc ρ, EqHolds fc ρ (l2, [⟨.eq, r2⟩]) ↔ a2.eval fc ρ = t.eval fc ρ) →
      pickKeepDrop v1 v2 (l1, [⟨.eq, r1⟩]) (l2, [⟨.eq, r2⟩]) = some (k, d, dt) →
      TEFacts (l1, [⟨.eq, r1⟩]) (l2, [⟨.eq, r2⟩]) vars k d dt := by
    intro v1 v2 a1 a2 t i1 i2 h1 h2 hp
    obtain ⟨hv1, rfl⟩ := isVarIn_some i1
    obtain ⟨hv2, rfl⟩ := isVarIn_some i2
    exact pick_facts hv1 hv2 t h1 h2 hp
  unfold transitiveEquality at h
  simp only at h
  split at h
  · next v1 i1 =>
    split at h
    · next v2 i2 =>
      split at h
      · next he => exact key i1 i2 (fun fc ρ => eqHolds_single ..) (fun fc ρ => he ▸ eqHolds_single ..) h
      · exact nomatch h
    · split at h
      · next v2 i2 =>
        split at h
        · next he => exact key i1 i2 (fun fc ρ => eqHolds_single ..) (fun fc ρ => he ▸ (eqHolds_single ..).trans eq_comm) h
        · exact nomatch h
      · exact nomatch h
  · split at h
    · next v1 i1 =>
      split at h
      · next v2 i2 =>
        split at h
        · next he => exact key i1 i2 (fun fc ρ => (eqHolds_single ..).trans eq_comm) (fun fc ρ => he ▸ eqHolds_single ..) h
        · exact nomatch h
      · split at h
        · next v2 i2 =>
          split at h
          · next he => exact key i1 i2 (fun fc ρ => (eqHolds_single ..).trans eq_comm) (fun fc ρ => he ▸ (eqHolds_single ..).trans eq_comm) h
          · exact nomatch h
        · exact nomatch h
    · exact nomatch h

theorem asEqCmp_some {ct : Formula} {c : Cmp} (h : asEqCmp ct = some c) :
    ∃ l r, ct = .atomic (.cmp l [⟨.eq, r⟩]) ∧ c = (l, [⟨.eq, r⟩]) := by
  unfold asEqCmp at h
  split at h
  · next t gs =>
    split at h
    · next he =>
      cases h
      unfold equalityComparison at he
      split at he
      · next g =>
        obtain ⟨rel, term⟩ := g
        cases of_decide_eq_true he
        exact ⟨t, term, rfl, rfl⟩
      · exact nomatch he
    · exact nomatch h
  · exact nomatch h

theorem indexFrom_getElem? {α} {xs : List α} {k i : Nat} {x : α} (h : (i, x) ∈ indexFrom k xs) :
    ∃ n, i = k + n ∧ xs[n]? = some x := by
  induction xs generalizing k with
  | nil => exact nomatch h
  | cons y ys ih =>
    rcases List.mem_cons.mp h with e | h
    · cases e; exact ⟨0, rfl, rfl⟩
    · obtain ⟨n, hn, hx⟩ := ih h
      exact ⟨n + 1, hn.trans (Nat.succ_add_eq_add_succ k n), hx⟩

theorem transitiveSearch_some {cts : List Formula} {vars : List Var} {j : Nat} {c1 c2 : Cmp}
    {k d : Var} {dt : Cmp} (h : transitiveSearch cts vars = some (j, c1, c2, k, d, dt)) :
    ∃ (i : Nat) (ct1 ct2 : Formula), i ≠ j ∧ cts[i]? = some ct1 ∧ cts[j]? = some ct2 ∧
      asEqCmp ct1 = some c1 ∧ asEqCmp ct2 = some c2 ∧
      transitiveEquality c1 c2 vars = some (k, d, dt) := by
  unfold transitiveSearch at h
  obtain ⟨⟨i, ct1⟩, hm1, h1⟩ := List.exists_of_findSome?_eq_some h
  simp only at h1
  cases e1 : asEqCmp ct1 with
  | none => simp [e1] at h1
  | some c1' =>
    simp only [e1] at h1
    obtain ⟨⟨j', ct2⟩, hm2, h2⟩ := List.exists_of_findSome?_eq_some h1
    simp only at h2
    cases e2 : asEqCmp ct2 with
    | none => simp [e2] at h2
    | some c2' =>
      simp only [e2] at h2
      split at h2
      · rename_i hij
        cases e3 : transitiveEquality c1' c2' vars with
        | none => simp [e3] at h2
        | some res =>
          obtain ⟨k', d', dt'⟩ := res
          simp only [e3, Option.some.injEq, Prod.mk.injEq] at h2
          obtain ⟨rfl, rfl, rfl, rfl, rfl, rfl⟩ := h2
          obtain ⟨n1, hn1, hx1⟩ := indexFrom_getElem? hm1
          obtain ⟨n2, hn2, hx2⟩ := indexFrom_getElem? hm2
          simp only [Nat.zero_add] at hn1 hn2
          subst hn1; subst hn2
          exact ⟨i, ct1, ct2, hij, hx1, hx2, e1, e2, e3⟩
      · cases h2

structure TransEqStep (vars : List Var) (f : Formula) (rest : List Formula) (k d : Var) : Prop where
  sublist : rest.Sublist (conjoinInvert f)
  shorter : rest.length < (conjoinInvert f).length
  keep_mem : k ∈ vars
  drop_mem : d ∈ vars
  sub : subsort k d = true
  eqs : ∃ (dt : Cmp) (t : GTerm),
    (∀ (fc : FcI) (ρ : Asg), EqHolds fc ρ dt ↔ d.toTerm.eval fc ρ = t.eval fc ρ) ∧
    (∀ c ∈ conjoinInvert f, c ∈ rest ∨ c = .atomic (.cmp dt.1 dt.2)) ∧
    (∀ (I : Interp) (τ : Asg), (∀ c ∈ rest, sat I c τ) → k.toTerm.eval I.fc τ = t.eval I.fc τ) ∧
    Formula.atomic (.cmp dt.1 dt.2) ∈ conjoinInvert f

theorem te_sem {vars : List Var} {f : Formula} {rest : List Formula} {k d : Var}
    (h : TransEqStep vars f rest k d) (I : Interp) (ρ : Asg) :
    bindEx vars (sat I ((conjoin rest).subst d k.toTerm)) ρ ↔ bindEx vars (sat I f) ρ := by
  obtain ⟨dt, t, hdt, R2, R3, R4⟩ := h.eqs
  have R1 : ∀ c ∈ rest, c ∈ conjoinInvert f := fun c hc => h.sublist.subset hc
  have hd := h.drop_mem
  have R3 := R3 I
  have hsub := h.sub
  have hcompat := subsort_compat hsub
  simp only [bindEx_iff, sat_subst I _ d _ hcompat, sat_conjoin, sat_conjoinInvert I _ f]
  constructor
  · rintro ⟨τ, hτ, hs⟩
    have hin : (k.toTerm.eval I.fc τ).inSort d.sort := eval_inSort_of_compat hcompat I.fc τ
    refine ⟨_, hτ.set hd hin, fun c hc => (R2 c hc).elim (hs c) fun e => ?_⟩
    -- in the new assignment `d` and `k` both have the old value of `k`
    have hkd : d.toTerm.eval I.fc (τ.set d (k.toTerm.eval I.fc τ)) =
        k.toTerm.eval I.fc (τ.set d (k.toTerm.eval I.fc τ)) := by
      have hin' : (zval τ k).inSort d.sort := by rw [← toTerm_eval I.fc]; exact hin
      rw [toTerm_eval, toTerm_eval, toTerm_eval]
      rw [zval_of_inSort (by rw [Asg.set_same]; exact hin'), Asg.set_same]
      by_cases e : k = d
      · subst e
        rw [zval_of_inSort (σ := τ.set k (zval τ k)) (v := k) (by rw [Asg.set_same]; exact hin'),
          Asg.set_same]
      · simp only [zval, Asg.set_other _ _ e]
    subst e
    show EqHolds I.fc _ dt
    rw [hdt, hkd]; exact R3 _ hs
  · rintro ⟨τ, hτ, hall⟩
    have hrest : ∀ c ∈ rest, sat I c τ := fun c hc => hall c (R1 c hc)
    have h1 := R3 τ hrest
    have h2 : EqHolds I.fc τ dt := hall _ R4
    rw [hdt, toTerm_eval, zval_of_inSort (hτ.2 d hd)] at h2
    exact ⟨τ, hτ, by rw [h1, ← h2, Asg.set_self]; exact hrest⟩

theorem simplifyTransitiveEquality_cases (F : Formula) :
    simplifyTransitiveEquality F = F ∨ ∃ vars l r rest k d, F = .quant .ex vars (.bin .and l r) ∧
      simplifyTransitiveEquality F = .quant .ex vars ((conjoin rest).subst d k.toTerm) ∧
      TransEqStep vars (.bin .and l r) rest k d := by
  generalize hG : simplifyTransitiveEquality F = G
  unfold simplifyTransitiveEquality at hG
  split at hG
  · next vars l r =>
    dsimp only at hG
    split at hG
    · next j c1 c2 k d dt hs =>
      obtain ⟨i, ct1, ct2, hij, hi, hj, e1, e2, e3⟩ := transitiveSearch_some hs
      obtain ⟨l1, r1, hct1, rfl⟩ := asEqCmp_some e1
      obtain ⟨l2, r2, hct2, rfl⟩ := asEqCmp_some e2
      obtain ⟨hk, hd, hsub, kc, t, hwhich, hsem⟩ := transitiveEquality_some e3
      have hm1 : ct1 ∈ conjoinInvert (.bin .and l r) := List.mem_of_getElem? hi
      have hm2 : ct2 ∈ conjoinInvert (.bin .and l r) := List.mem_of_getElem? hj
      have hdtmem : Formula.atomic (.cmp dt.1 dt.2) ∈ conjoinInvert (.bin .and l r) := by
        rcases hwhich with ⟨_, rfl⟩ | ⟨_, rfl⟩
        · rw [← hct2]; exact hm2
        · rw [← hct1]; exact hm1
      have hkcmem : Formula.atomic (.cmp kc.1 kc.2) ∈ conjoinInvert (.bin .and l r) := by
        rcases hwhich with ⟨rfl, _⟩ | ⟨rfl, _⟩
        · rw [← hct1]; exact hm1
        · rw [← hct2]; exact hm2
      have h12 : (l1, [(⟨.eq, r1⟩ : Guard)]) = (l2, [⟨.eq, r2⟩]) ↔ kc = dt := by
        rcases hwhich with ⟨rfl, rfl⟩ | ⟨rfl, rfl⟩
        · exact Iff.rfl
        · exact eq_comm
      by_cases hcond : (decide ((l1, [(⟨.eq, r1⟩ : Guard)]) = (l2, [⟨.eq, r2⟩])) && !cmpReflexive dt) = true
      · -- the two equations coincide: the copy at `j` goes, the copy at `i` stays
        rw [if_pos hcond] at hG
        have hc12 : (l1, [(⟨.eq, r1⟩ : Guard)]) = (l2, [⟨.eq, r2⟩]) :=
          of_decide_eq_true (Bool.and_eq_true_iff.mp hcond).1
        have hdt2 : dt = (l2, [⟨.eq, r2⟩]) := hwhich.elim (fun h => h.2) fun h => h.2.trans hc12
        have hkc1 : kc = (l1, [⟨.eq, r1⟩]) := hwhich.elim (fun h => h.1) fun h => h.1.trans hc12.symm
        have hjl := (List.getElem?_eq_some_iff.mp hj).1
        refine Or.inr ⟨vars, l, r, _, k, d, rfl, hG.symm, List.eraseIdx_sublist _ j, ?_, hk, hd, hsub, dt, t,
          fun fc ρ => (hsem fc ρ).2, fun c hc => ?_, fun I τ hrest => (hsem I.fc τ).1.mp ?_, hdtmem⟩
        · rw [List.length_eraseIdx_of_lt hjl]
          exact Nat.sub_lt (Nat.lt_of_le_of_lt (Nat.zero_le _) hjl) Nat.one_pos
        · obtain ⟨n, hn⟩ := List.getElem?_of_mem hc
          by_cases e : n = j
          · have hc2 : c = ct2 := Option.some.inj ((e ▸ hn).symm.trans hj)
            exact Or.inr (by rw [hc2, hct2, hdt2])
          · exact Or.inl (List.mem_eraseIdx_iff_getElem?.mpr ⟨n, e, hn⟩)
        · have := hrest ct1 (List.mem_eraseIdx_iff_getElem?.mpr ⟨i, hij, hi⟩)
          rw [hct1] at this
          rw [hkc1]
          exact this
      · -- every copy of the dropped equation goes
        rw [if_neg hcond] at hG
        refine Or.inr ⟨vars, l, r, _, k, d, rfl, hG.symm, List.filter_sublist,
          List.length_filter_lt_length_iff_exists.2 ⟨_, hdtmem, by simp⟩, hk, hd, hsub, dt, t,
          fun fc ρ => (hsem fc ρ).2, fun c hc => ?_, fun I τ hrest => (hsem I.fc τ).1.mp ?_, hdtmem⟩
        · by_cases e : c = .atomic (.cmp dt.1 dt.2)
          · exact Or.inr e
          · exact Or.inl (List.mem_filter.mpr ⟨hc, decide_eq_true e⟩)
        · by_cases e : kc = dt
          · -- then the equations coincide, so the dropped one is reflexive
            have hrefl : cmpReflexive dt = true := by
              cases hr : cmpReflexive dt with
              | true => rfl
              | false => exact absurd (by rw [hr, decide_eq_true (h12.mpr e)]; rfl) hcond
            obtain ⟨l', r', rfl⟩ : ∃ l' r', dt = (l', [(⟨.eq, r'⟩ : Guard)]) :=
              hwhich.elim (fun h => ⟨l2, r2, h.2⟩) fun h => ⟨l1, r1, h.2⟩
            rw [e, eqHolds_single, show l' = r' from of_decide_eq_true hrefl]
          · exact hrest _ (List.mem_filter.mpr ⟨hkcmem, decide_eq_true fun h => e (by cases kc; cases dt; cases h; rfl)⟩)
    · exact Or.inl hG.symm
  · exact Or.inl hG.symm

/-- Sound because of two equations `k = t`, `d = t` the second is implied once `d` is replaced by
    `k` (`te_sem`). When both are the same non-reflexive equation only the later copy is dropped
    (fix f1b4fb0), so `k = t` is still among the remaining conjuncts. -/
theorem simplifyTransitiveEquality_keeps (F : Formula) :
    ClassKeeps (simplifyTransitiveEquality F) F := by
  rcases simplifyTransitiveEquality_cases F with e | ⟨vars, l, r, rest, k, d, rfl, e, h⟩ <;> rw [e]
  · exact ClassKeeps.congr.refl F
  · refine ⟨te_sem h, fun v hv => ?_⟩
    rcases subst_FV _ d k.toTerm (subsort_compat h.sub) v hv.1 with h1 | h1
    · obtain ⟨c, hc, hcv⟩ := conjoin_FV.mp h1.1
      exact ⟨FV_conjoinInvert (f := .bin .and l r) (h.sublist.subset hc) hcv, hv.2⟩
    · rw [toTerm_vars, List.mem_singleton] at h1
      exact absurd (h1 ▸ h.keep_mem) hv.2

theorem FV_mem_vars {F : Formula} {v : Var} : F.FV v → v ∈ F.vars := by
  induction F with
  | atomic a => exact id
  | not f ih => exact ih
  | bin c l r ihl ihr =>
    intro h
    simp only [Formula.vars, mem_ext]
    rcases h with h | h
    · exact Or.inl (ihl h)
    · exact Or.inr (ihr h)
  | quant q vs f ih => intro h; exact ih h.1

def IntForced (q : Quant) (P : Asg → Prop) (Z : Var) : Prop :=
  match q with
  | .ex => ∀ τ, P τ → ∃ n, τ Z = .num n
  | .all => ∀ τ, (¬ ∃ n, τ Z = .num n) → P τ

theorem restrict_core (q : Quant) (P : Asg → Prop) (outer : List Var) (Z K : Var) (hZ : Z.sort = .general)
    (hK : K.sort = .integer) (hZo : Z ∈ outer) (hPK : ∀ (τ : Asg) (d : Dom), P (τ.set K d) ↔ P τ)
    (H : IntForced q P Z) (ρ : Asg) :
    bindQ q outer P ρ ↔
      bindQ q (outer.filter (· ≠ Z) ++ [K]) (fun τ => P (τ.set Z (.num (τ K).toInt))) ρ := by
  have hZK : Z ≠ K := fun e => by rw [e, hK] at hZ; cases hZ
  -- `Z` may be bound last, and then both sides bind the same list before their last variable
  have hperm : ∀ u, u ∈ outer ↔ u ∈ outer.filter (· ≠ Z) ++ [Z] := fun u => by
    rw [List.mem_append, List.mem_filter, List.mem_singleton, decide_eq_true_iff]
    exact ⟨fun h => (Classical.em (u = Z)).elim Or.inr fun e => Or.inl ⟨h, e⟩,
      fun h => h.elim (fun h => h.1) fun e => e ▸ hZo⟩
  have hQ : ∀ (σ : Asg) (d : Dom), P ((σ.set K d).set Z (.num ((σ.set K d) K).toInt)) ↔ P (σ.set Z (.num d.toInt)) :=
    fun σ d => by rw [Asg.set_same, Asg.set_comm σ hZK, hPK]
  refine (bindQ_perm hperm P ρ).trans ((bindQ_append q _ [Z] P ρ).trans
    ((bindQ_congr (fun σ => ?_) ρ).trans (bindQ_append q _ [K] _ ρ).symm))
  have gen : ∀ d : Dom, d.inSort Z.sort := fun d => by rw [hZ]; trivial
  have int : ∀ n : Int, (Dom.num n).inSort K.sort := fun n => by rw [hK]; trivial
  cases q
  · refine ⟨fun h d _ => (hQ σ d).mpr (h _ (gen _)), fun h d _ => ?_⟩
    by_cases hn : ∃ n, d = .num n
    · obtain ⟨n, rfl⟩ := hn
      exact (hQ σ (.num n)).mp (h (.num n) (int n))
    · exact H _ (by rwa [Asg.set_same])
  · refine ⟨fun ⟨d, _, hp⟩ => ?_, fun ⟨d, _, hp⟩ => ⟨.num d.toInt, gen _, (hQ σ d).mp hp⟩⟩
    obtain ⟨n, hn⟩ := H _ hp
    rw [Asg.set_same] at hn
    exact ⟨.num n, int n, (hQ σ (.num n)).mpr (hn ▸ hp)⟩

theorem firstReplacement_some {outer inner : List Var} {t : GTerm} {gs : List Guard} {ok : Var → Bool}
    {Z I : Var} (h : firstReplacement outer inner t gs ok = some (Z, I)) :
    Z ∈ outer ∧ I ∈ inner ∧ Z.sort = .general ∧ I.sort = .integer ∧ ok Z = true ∧
      replacementMatches I Z t gs = true := by
  unfold firstReplacement at h
  obtain ⟨o, ho, h1⟩ := List.exists_of_findSome?_eq_some h
  obtain ⟨i, hi, h2⟩ := List.exists_of_findSome?_eq_some h1
  split at h2
  · rename_i hc
    injection h2 with h2; injection h2 with ha hb
    subst ha; subst hb
    simp only [Bool.and_eq_true, decide_eq_true_eq] at hc
    exact ⟨ho, hi, hc.1.1.1, hc.1.1.2, hc.1.2, hc.2⟩
  · cases h2

theorem inner_forces_int (J : Interp) (inner : List Var) (innerF ict : Formula) (t : GTerm)
    (gs : List Guard) (Z I : Var) (hict : ict ∈ conjoinInvert innerF) (he : ict = .atomic (.cmp t gs))
    (hm : replacementMatches I Z t gs = true) (hZ : Z.sort = .general) (hZi : Z ∉ inner) (τ : Asg)
    (hs : sat J (.quant .ex inner innerF) τ) : ∃ n, τ Z = .num n := by
  simp only [sat] at hs
  rw [bindEx_iff] at hs
  obtain ⟨σ, hσ, hF⟩ := hs
  have h1 := (sat_conjoinInvert J σ innerF).mp hF ict hict
  subst he
  have hZeq : Z = ⟨Z.name, .general⟩ := by cases Z; simp only at hZ; subst hZ; rfl
  have hστ : σ ⟨Z.name, .general⟩ = τ Z := by rw [← hZeq]; exact hσ.1 Z hZi
  unfold replacementMatches at hm
  simp only [Bool.or_eq_true, Bool.and_eq_true, decide_eq_true_eq] at hm
  rcases hm with ⟨rfl, rfl⟩ | ⟨rfl, rfl⟩
  · simp only [sat, AtomicF.sat, cmpChain, Rel.holds, GTerm.eval, and_true] at h1
    exact ⟨_, by rw [← hστ]; exact h1⟩
  · simp only [sat, AtomicF.sat, cmpChain, Rel.holds, GTerm.eval, and_true] at h1
    exact ⟨_, by rw [← hστ]; exact h1.symm⟩

theorem restrictExistsSearch_some {outer : List Var} {cts : List Formula} {Z I : Var}
    (h : restrictExistsSearch outer cts = some (Z, I)) :
    ∃ inner innerF ict t gs, Formula.quant .ex inner innerF ∈ cts ∧ ict ∈ conjoinInvert innerF ∧
      ict = .atomic (.cmp t gs) ∧
      firstReplacement outer inner t gs (fun ovar => !(ovar ∈ inner)) = some (Z, I) := by
  unfold restrictExistsSearch at h
  obtain ⟨ct, hct, h1⟩ := List.exists_of_findSome?_eq_some h
  split at h1
  · rename_i inner innerF
    obtain ⟨ict, hict, h2⟩ := List.exists_of_findSome?_eq_some h1
    split at h2
    · rename_i t gs
      split at h2
      · exact ⟨inner, innerF, _, t, gs, hct, hict, rfl, h2⟩
      · cases h2
    · cases h2
  · cases h1

theorem replacementApply_keeps (q : Quant) (outer : List Var) (f : Formula) (Z I : Var)
    (hZ : Z.sort = .general) (hZo : Z ∈ outer)
    (H : ∀ J : Interp, IntForced q (sat J f) Z) :
    ClassKeeps (replacementApply I Z (.quant q outer f)) (.quant q outer f) := by
  simp only [replacementApply]
  generalize hfv : (chooseFresh ((Formula.quant q outer f).vars.map (·.name))
    (String.ofList (I.name.toList.take 1)) 1).headD (String.ofList (I.name.toList.take 1)) = fvar
  have hfresh : fvar ∉ (Formula.quant q outer f).vars.map (·.name) := by
    rw [← hfv]; exact chooseFresh_one _ _
  have hKfv : ¬ f.FV ⟨fvar, .integer⟩ := fun hfvv =>
    hfresh (List.mem_map.mpr ⟨_, (show _ ∈ f.vars from FV_mem_vars hfvv), rfl⟩)
  have hcompat : SortCompatible Z (.int (.var fvar)) :=
    ⟨fun h => (by rw [hZ] at h; cases h), fun h => (by rw [hZ] at h; cases h)⟩
  refine ⟨fun J ρ => ?_, fun v hv => ?_⟩
  · have hPK : ∀ (τ : Asg) (d : Dom), sat J f (τ.set ⟨fvar, .integer⟩ d) ↔ sat J f τ := fun τ d =>
      sat_agree J f _ _ fun v hv => Asg.set_other _ _ fun e => hKfv (e ▸ hv)
    exact (sat_quant ..).trans (((bindQ_congr (fun τ => sat_subst J f Z _ hcompat τ) ρ).trans
      (restrict_core q (sat J f) outer Z ⟨fvar, .integer⟩ hZ rfl hZo hPK (H J) ρ).symm).trans (sat_quant ..).symm)
  · obtain ⟨h1, h2⟩ := hv
    rw [List.mem_append, not_or] at h2
    rcases subst_FV f Z _ hcompat v h1 with h | h
    · exact ⟨h.1, fun hm => h2.1 (List.mem_filter.mpr ⟨hm, decide_eq_true h.2⟩)⟩
    · exact absurd h h2.2

theorem restrictQuantifierDomain_cases (F : Formula) :
    restrictQuantifierDomain F = F ∨ ∃ q outer f Z I, F = .quant q outer f ∧
      restrictQuantifierDomain F = replacementApply I Z F ∧ Z.sort = .general ∧ Z ∈ outer ∧
      ∀ J : Interp, IntForced q (sat J f) Z := by
  generalize hG : restrictQuantifierDomain F = G
  unfold restrictQuantifierDomain at hG
  split at hG
  · next outer l r =>
    split at hG
    · next Z I hs =>
      obtain ⟨inner, innerF, ict, t, gs, hct, hict, he, hfirst⟩ := restrictExistsSearch_some hs
      obtain ⟨hZo, _, hZ, _, hok, hm⟩ := firstReplacement_some hfirst
      have hZi : Z ∉ inner := by simpa using hok
      refine Or.inr ⟨.ex, outer, _, Z, I, rfl, hG.symm, hZ, hZo, fun J τ hτ => ?_⟩
      have := (sat_conjoinInvert J τ (.bin .and l r)).mp hτ _ hct
      exact inner_forces_int J inner innerF ict t gs Z I hict he hm hZ hZi τ this
    · exact Or.inl hG.symm
  · next outer inner innerF rhs =>
    dsimp only at hG
    split at hG
    · next Z I hhit =>
      obtain ⟨ct, hct, h1⟩ := List.exists_of_findSome?_eq_some hhit
      split at h1
      · next t gs =>
        split at h1
        · obtain ⟨hZo, _, hZ, _, hok, hm⟩ := firstReplacement_some h1
          have hZi : Z ∉ inner := by
            simp only [Bool.and_eq_true, Bool.not_eq_true', decide_eq_false_iff_not] at hok
            exact hok.1
          exact Or.inr ⟨.all, outer, _, Z, I, rfl, hG.symm, hZ, hZo, fun J τ hn hante =>
            absurd (inner_forces_int J inner innerF _ t gs Z I hct rfl hm hZ hZi τ hante) hn⟩
        · exact nomatch h1
      · exact nomatch h1
    · exact Or.inl hG.symm
  · exact Or.inl hG.symm

/-- Sound in both forms because the inner equation `I$i = Z` forces the general variable `Z` to an
    integer wherever the inner block holds, `Z` not being rebound by that block (checked since fix
    8154c20), and the integer variable that replaces `Z` is fresh. -/
theorem restrictQuantifierDomain_keeps (F : Formula) :
    ClassKeeps (restrictQuantifierDomain F) F := by
  rcases restrictQuantifierDomain_cases F with e | ⟨q, outer, f, Z, I, rfl, e, hZ, hZo, H⟩ <;> rw [e]
  · exact ClassKeeps.congr.refl F
  · exact replacementApply_keeps q outer f Z I hZ hZo H

end Anthem
