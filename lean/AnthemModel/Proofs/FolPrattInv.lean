/-
  The two Pratt parsers of the target language (integer terms, formulas) invert the printers'
  parenthesisation. `iflat`/`fflat` are the pair sequences of the printed text: a parenthesised
  operand is one primary pair. That the printed text lexes to them is `iseqOK` (Proofs/FolITermRT)
  and `fseqOK` (Proofs/FolFormulaRT).
-/
import AnthemModel.Model.FolParse
import AnthemModel.Model.Print
import AnthemModel.Proofs.PrattScheme
namespace Anthem.Fol

def iflat : ITerm → List ITok
  | .num n => [.prim (.num n)]
  | .fc c => [.prim (.fc c)]
  | .var x => [.prim (.var x)]
  | .neg a => .neg :: (if 0 < a.prec then [.prim a] else iflat a)
  | .bin op l r =>
    (if (ITerm.bin op l r).prec < l.prec then [.prim l] else iflat l) ++ [.op op] ++
      (if ((ITerm.bin op l r).prec < r.prec || (ITerm.bin op l r).prec = r.prec) then [.prim r] else iflat r)

def ibpTop : ITerm → Nat
  | .bin op _ _ => IOp.bp op
  | _ => 100

/- The numbers 30, 20 and 50 are read off the two tables `IOp.bp` (Model/FolParse) and `ITerm.prec`
   (Model/Print): a changed precedence in either fails here first. -/
theorem IOp.bp_le (o : IOp) : IOp.bp o ≤ 30 := by cases o <;> decide
theorem IOp.bp_ge (o : IOp) : 20 ≤ IOp.bp o := by cases o <;> decide

/-- the printer's precedence numbers reverse the parser's binding powers -/
theorem ITerm.bin_prec (op : IOp) (l r : ITerm) : 10 * (ITerm.bin op l r).prec + IOp.bp op = 50 := by
  cases op <;> rfl

theorem ITerm.bin_prec_pos (op : IOp) (l r : ITerm) : 0 < (ITerm.bin op l r).prec := by
  cases op <;> exact Nat.succ_pos _

theorem ileft_unparen (op : IOp) (l r : ITerm) (h : ¬ (ITerm.bin op l r).prec < l.prec) : IOp.bp op ≤ ibpTop l := by
  cases l with
  | bin op' l' r' =>
    have h1 := ITerm.bin_prec op (.bin op' l' r') r
    have h2 := ITerm.bin_prec op' l' r'
    show IOp.bp op ≤ IOp.bp op'
    omega
  | num _ | fc _ | var _ | neg _ => exact Nat.le_trans (IOp.bp_le op) (show 30 ≤ 100 by decide)

theorem iright_unparen (op : IOp) (l r : ITerm)
    (h : ¬ ((ITerm.bin op l r).prec < r.prec || (ITerm.bin op l r).prec = r.prec) = true) : IOp.bp op < ibpTop r := by
  cases r with
  | bin op' l' r' =>
    have h1 := ITerm.bin_prec op l (.bin op' l' r')
    have h2 := ITerm.bin_prec op' l' r'
    simp only [Bool.or_eq_true, decide_eq_true_eq] at h
    show IOp.bp op < IOp.bp op'
    omega
  | num _ | fc _ | var _ | neg _ => exact Nat.lt_of_le_of_lt (IOp.bp_le op) (show 30 < 100 by decide)

theorem ineg_unparen (a : ITerm) (h : ¬ 0 < a.prec) : ibpTop a = 100 := by
  cases a with
  | bin op l r => exact absurd (ITerm.bin_prec_pos op l r) h
  | num _ | fc _ | var _ | neg _ => rfl

def iPratt : Pratt ITok ITerm IOp Unit where
  prim := .prim
  op := .op
  pre := fun _ => .neg
  bin := .bin
  un := fun _ => .neg
  bp := IOp.bp
  rbp := IOp.bp
  -- `-` has power 40 here (one level above `*`), and pest reads the operand of a prefix operator at
  -- its power minus one
  prebp := 39
  expr := iprattExpr
  loop := iprattLoop
  bp_le := fun o => Nat.le_trans (IOp.bp_le o) (by decide)
  expr_prim := fun f m t r => by simp only [iprattExpr]
  expr_pre := fun f m _ r => by simp only [iprattExpr]; cases iprattExpr f 39 r <;> rfl
  loop_nil := fun f m t => by simp only [iprattLoop]
  loop_op := fun f m t o r => by simp only [iprattLoop]; cases iprattExpr f (IOp.bp o) r <;> rfl

theorem iflat_reads (t : ITerm) : iPratt.Reads (iflat t) t (ibpTop t) (ibpTop t) := by
  induction t with
  | num n => exact iPratt.reads_prim _ _ _
  | fc c => exact iPratt.reads_prim _ _ _
  | var x => exact iPratt.reads_prim _ _ _
  | neg a iha =>
    have harg := iha.arg (0 < a.prec) (top' := 100) (bound' := 100) fun h => by
      rw [ineg_unparen a h]; exact ⟨Nat.le_refl _, Nat.le_refl _⟩
    -- the operand of `-` is read at `prebp = 39`
    exact harg.pre () (show 39 < 100 by decide) (show 39 ≤ 100 by decide) _ _
  | bin op l r ihl ihr =>
    simp only [iflat, List.append_assoc, List.cons_append, List.nil_append]
    exact (ihl.arg ((ITerm.bin op l r).prec < l.prec) fun h => ⟨ileft_unparen op l r h, ileft_unparen op l r h⟩).bin
      (ihr.arg (((ITerm.bin op l r).prec < r.prec || (ITerm.bin op l r).prec = r.prec) = true)
        (top' := IOp.bp op + 1) fun h => ⟨iright_unparen op l r h, Nat.le_of_lt (iright_unparen op l r h)⟩)
      op (Nat.le_refl _) (Nat.le_refl _) (Nat.lt_succ_self _) (Nat.le_refl _) (Nat.le_refl _)

theorem ipratt_flat_eq (t : ITerm) : ipratt (iflat t) = some t := by
  have h0 : 0 < ibpTop t := by
    cases t with
    | bin op _ _ => exact Nat.lt_of_lt_of_le (by decide) (IOp.bp_ge op)
    | num _ | fc _ | var _ | neg _ => exact (show 0 < 100 by decide)
  have h : iprattExpr (2 * (iflat t).length + 2) 0 (iflat t) = some (t, []) := (iflat_reads t).at_zero h0
  simp only [ipratt, h]

/-- this and the next two are the parenthesisation conditions of `Formula.print` (Model/Print) -/
def parenPrefix (f : Formula) : Bool := f.mandatory || decide (1 < f.prec)

def parenLeft (c : Conn) (l r : Formula) : Bool :=
  l.mandatory || decide ((Formula.bin c l r).prec < l.prec) || (decide ((Formula.bin c l r).prec = l.prec) && l.rightAssoc)

def parenRight (c : Conn) (l r : Formula) : Bool :=
  (decide (c = .rimp) && r.beginsWithComparison) || r.mandatory || decide ((Formula.bin c l r).prec < r.prec) ||
    (decide ((Formula.bin c l r).prec = r.prec) && !(Formula.bin c l r).rightAssoc)

def fflat : Formula → List FTok
  | .atomic a => [.prim (.atomic a)]
  | .not f => .pneg :: (if parenPrefix f then [.prim f] else fflat f)
  | .quant q vs f => .pquant q vs :: (if parenPrefix f then [.prim f] else fflat f)
  | .bin c l r =>
    (if parenLeft c l r then [.prim l] else fflat l) ++ [.op c] ++ (if parenRight c l r then [.prim r] else fflat r)

def fbpTop : Formula → Nat
  | .bin c _ _ => Conn.bp c
  | _ => 100

/-- the strongest operator that may follow the formula as an unparenthesised operand: after
    `<->`, `->`, `<-` none (19 is below every binding power: such a formula is always parenthesised as an
    operand, and `Reads.bin` wants the bound within `Conn.rbp`), after `and`, `or` nothing that would take
    their right operand away, otherwise any (100 is above every binding power) -/
def restBound : Formula → Nat
  | .bin .and _ _ => 40
  | .bin .or _ _ => 30
  | .bin _ _ _ => 19
  | _ => 100

/- 40 and 20 are read off `Conn.bp` (Model/FolParse) -/
theorem Conn.bp_le (c : Conn) : Conn.bp c ≤ 40 := by cases c <;> decide
theorem Conn.bp_ge (c : Conn) : 20 ≤ Conn.bp c := by cases c <;> decide

theorem prefix_unparen (f : Formula) (h : ¬ parenPrefix f = true) : fbpTop f = 100 ∧ restBound f = 100 := by
  cases f with
  | bin c l r => exact absurd (by cases c <;> rfl) h  -- precedence at least 2: always parenthesised
  | atomic _ | not _ | quant _ _ _ => exact ⟨rfl, rfl⟩

theorem left_unparenF (c : Conn) (l r : Formula) (h : ¬ parenLeft c l r = true) :
    Conn.bp c ≤ fbpTop l ∧ Conn.bp c ≤ restBound l := by
  cases l with
  | bin c' l' r' =>
    cases c' with
    | iff | imp | rimp => exact absurd rfl h
    -- `l` is `and`/`or`: both bounds are `Conn.bp c'`, and `h` says `l.prec` is at most that of the
    -- whole; precedences (2, 3, 4) and binding powers (40, 30, 20) run against each other
    | and | or => revert h; cases c <;> exact of_decide_eq_true rfl
  | atomic _ | not _ | quant _ _ _ => exact ⟨Nat.le_trans (Conn.bp_le c) (show 40 ≤ 100 by decide), Nat.le_trans (Conn.bp_le c) (show 40 ≤ 100 by decide)⟩

theorem right_unparenF (c : Conn) (l r : Formula) (h : ¬ parenRight c l r = true) :
    Conn.rbp c < fbpTop r ∧ restBound (.bin c l r) ≤ restBound r := by
  cases r with
  | bin c' l' r' =>
    -- the test for a comparison after `<-` looks into `l'`: the other three tests decide the matter
    unfold parenRight at h
    generalize (decide (c = .rimp) && (Formula.bin c' l' r').beginsWithComparison) = x at h
    cases x
    · cases c' with
      | iff | imp | rimp => exact absurd rfl h
      -- `r` is `and`/`or`, of precedence strictly below that of the whole by `h` (equal precedence is
      -- let through only under `<->`, `->`, which have none equal among `and`, `or`): so `Conn.bp c'`,
      -- both bounds of `r`, is above `Conn.bp c`
      | and | or => revert h; cases c <;> exact of_decide_eq_true rfl
    · exact absurd rfl h
  | atomic _ | not _ | quant _ _ _ => cases c <;> exact of_decide_eq_true rfl

theorem restBound_le_rbp (c : Conn) (l r : Formula) : restBound (.bin c l r) ≤ Conn.rbp c := by
  cases c <;> exact of_decide_eq_true rfl

def fPratt : Pratt FTok Formula Conn (Option (Quant × List Var)) where
  prim := .prim
  op := .op
  pre := fun p => match p with | none => .pneg | some (q, vs) => .pquant q vs
  bin := .bin
  un := fun p => match p with | none => .not | some (q, vs) => .quant q vs
  bp := Conn.bp
  rbp := Conn.rbp
  -- `not` and the quantifiers have power 50; pest reads their operand at that power minus one
  prebp := 49
  expr := fprattExpr
  loop := fprattLoop
  bp_le := fun c => Nat.le_trans (Conn.bp_le c) (by decide)
  expr_prim := fun f m t r => by simp only [fprattExpr]
  expr_pre := fun f m p r => by
    cases p with
    | none => simp only [fprattExpr]; cases fprattExpr f 49 r <;> rfl
    | some p => simp only [fprattExpr]; cases fprattExpr f 49 r <;> rfl
  loop_nil := fun f m t => by simp only [fprattLoop]
  loop_op := fun f m t c r => by simp only [fprattLoop]; cases fprattExpr f (Conn.rbp c) r <;> rfl

theorem fflat_reads (g : Formula) : fPratt.Reads (fflat g) g (fbpTop g) (restBound g) := by
  have operand : ∀ a : Formula, fPratt.Reads (fflat a) a (fbpTop a) (restBound a) →
      fPratt.Reads (if parenPrefix a then [.prim a] else fflat a) a 100 100 := fun a iha =>
    iha.arg (parenPrefix a = true) fun h => by
      rw [(prefix_unparen a h).1, (prefix_unparen a h).2]; exact ⟨Nat.le_refl _, Nat.le_refl _⟩
  induction g with
  | atomic a => exact fPratt.reads_prim _ _ _
  | not a iha => exact (operand a iha).pre none (by decide) (by decide) _ _
  | quant q vs a iha => exact (operand a iha).pre (some (q, vs)) (by decide) (by decide) _ _
  | bin c l r ihl ihr =>
    simp only [fflat, List.append_assoc, List.cons_append, List.nil_append]
    exact (ihl.arg (parenLeft c l r = true) (left_unparenF c l r)).bin
      (ihr.arg (parenRight c l r = true) (top' := Conn.rbp c + 1) (right_unparenF c l r))
      c (Nat.le_refl _) (Nat.le_refl _) (Nat.lt_succ_self _) (Nat.le_refl _) (restBound_le_rbp c l r)

theorem fpratt_flat_eq (g : Formula) : fpratt (fflat g) = some g := by
  have h0 : 0 < fbpTop g := by
    cases g with
    | bin c _ _ => exact Nat.lt_of_lt_of_le (by decide) (Conn.bp_ge c)
    | atomic _ | not _ | quant _ _ _ => exact (show 0 < 100 by decide)
  have h : fprattExpr (2 * (fflat g).length + 2) 0 (fflat g) = some (g, []) := (fflat_reads g).at_zero h0
  simp only [fpratt, h]

end Anthem.Fol
