/-
  Accepted definitions of proof outlines: what `checkDefinition` accepts, and conservativity.
-/
import AnthemModel.Model.External
import AnthemModel.Proofs.DefinitionSem
namespace Anthem.Outline

/-- The `if`s are taken one at a time with `ite_eq_cases`: `split` simplifies the whole remaining term at each. -/
theorem checkDefinition_cases (f : Formula) (taken : List Pred) :
    (∃ e, checkDefinition f taken = .err e) ∨
    ∃ (vars : List Var) (a : Atom) (rhs : Formula) (tv : List Var),
      f = .quant .all vars (.bin .iff (.atomic (.atom a)) rhs) ∧ checkDefinition f taken = .ok a.predicate ∧
      ¬ (vars.foldl ins []).length < vars.length ∧ a.args.mapM GTerm.asVar? = some tv ∧
      sameSet (vars.foldl ins []) (tv.foldl ins []) = true ∧ a.args.length = vars.length ∧
      a.predicate ∉ taken ∧ (∀ x ∈ rhs.fv, x ∈ vars.foldl ins []) ∧ ∀ q ∈ rhs.preds, q ∈ taken := by
  generalize hr : checkDefinition f taken = r
  unfold checkDefinition at hr
  split at hr
  · rename_i vars a rhs
    rcases ite_eq_cases hr with ⟨_, hr⟩ | ⟨h1, hr⟩
    · exact Or.inl ⟨_, hr.symm⟩
    cases htv : a.args.mapM GTerm.asVar? with
    | none => rw [htv] at hr; exact Or.inl ⟨_, hr.symm⟩
    | some tv =>
      rw [htv] at hr
      rcases ite_eq_cases hr with ⟨_, hr⟩ | ⟨h2, hr⟩
      · exact Or.inl ⟨_, hr.symm⟩
      rcases ite_eq_cases hr with ⟨_, hr⟩ | ⟨h3, hr⟩
      · exact Or.inl ⟨_, hr.symm⟩
      rcases ite_eq_cases hr with ⟨_, hr⟩ | ⟨h4, hr⟩
      · exact Or.inl ⟨_, hr.symm⟩
      rcases ite_eq_cases hr with ⟨_, hr⟩ | ⟨h5, hr⟩
      · exact Or.inl ⟨_, hr.symm⟩
      have hsame : sameSet (vars.foldl ins []) (tv.foldl ins []) = true := by
        cases hs : sameSet (vars.foldl ins []) (tv.foldl ins [])
        · rw [hs] at h2; exact absurd rfl h2
        · rfl
      have hlen : a.args.length = vars.length :=
        Classical.byContradiction fun hn => h2 (by rw [decide_eq_true hn, Bool.or_true])
      exact Or.inr ⟨vars, a, rhs, tv, rfl, hr.symm, h1, htv, hsame, hlen, h3,
        fun x hx => Classical.byContradiction fun hn => h4 (List.any_eq_true.mpr ⟨x, hx, decide_eq_true hn⟩),
        fun q hq => Classical.byContradiction fun hn => h5 (List.any_eq_true.mpr ⟨q, hq, decide_eq_true hn⟩)⟩
  · exact Or.inl ⟨_, hr.symm⟩

/-- A head that repeats a variable, `forall X (d(X,X) <-> in(X))`, is refused: fix c8750dd. -/
theorem definition_accepted_implies (f : Formula) (taken : List Pred) (p : Pred)
    (h : checkDefinition f taken = .ok p) :
    ∃ (vars : List Var) (a : Atom) (rhs : Formula) (tv : List Var),
      f = .quant .all vars (.bin .iff (.atomic (.atom a)) rhs) ∧ p = a.predicate ∧ p ∉ taken ∧
      (∀ x ∈ rhs.fv, x ∈ vars.foldl ins []) ∧ (∀ q ∈ rhs.preds, q ∈ taken) ∧
      ¬ (vars.foldl ins []).length < vars.length ∧
      a.args.mapM GTerm.asVar? = some tv ∧ sameSet (vars.foldl ins []) (tv.foldl ins []) = true ∧
      tv.Nodup := by
  rcases checkDefinition_cases f taken with ⟨e, he⟩ | ⟨vars, a, rhs, tv, hf, hok, hlen, htv, hsame, hcount, hnt, hfv, hpreds⟩
  · rw [he] at h; cases h
  · rw [hok] at h; cases h
    refine ⟨vars, a, rhs, tv, hf, rfl, hnt, hfv, hpreds, hlen, htv, hsame, head_args_nodup vars tv hlen hsame ?_⟩
    rw [← hcount, mapM_asVar_eq htv, List.length_map]

/-- **Accepted definitions are conservative.** So a definition - even one that the letter of the property
    would refuse, see the two known findings - never makes a claim about the task's predicates available. -/
theorem definition_conservative (f : Formula) (taken : List Pred) (p : Pred)
    (h : checkDefinition f taken = .ok p) (I : Interp) :
    ∃ P' : PredI,
      (∀ q ds, ¬ (q = p.symbol ∧ ds.length = p.arity) → (P' q ds ↔ I.pred q ds)) ∧
      ∀ ρ, sat ⟨P', I.fc⟩ f ρ := by
  obtain ⟨vars, a, rhs, tv, rfl, rfl, hnt, hfv, hpreds, _, htv, hsame, _⟩ :=
    definition_accepted_implies f taken p h
  obtain ⟨h12, h21⟩ := sameSet_true.mp hsame
  refine ⟨definedPred I vars a rhs, definedPred_elsewhere I vars a rhs, fun ρ => ?_⟩
  exact definition_conservative_core I vars a rhs tv htv
    (fun v => ⟨fun hv => mem_foldl_ins_nil.mp (h12 v (mem_foldl_ins_nil.mpr hv)),
      fun hv => mem_foldl_ins_nil.mp (h21 v (mem_foldl_ins_nil.mpr hv))⟩)
    (fun x hx => mem_foldl_ins_nil.mp (hfv x hx)) (fun hin => hnt (hpreds _ hin)) ρ

end Anthem.Outline
